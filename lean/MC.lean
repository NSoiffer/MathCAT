import MC.Props.C18
import MC.Props.C17
import MC.Props.C12
import MC.Props.C12Step
import MC.Props.C12Sep
import MC.Props.C11
import MC.Props.C11Undo
import MC.Props.C11Markers
import MC.Props.C01Clean
import MC.Props.C01Trim
import MC.Props.C01Out
import MC.Props.C02Clean
import MC.Props.C09Clean
import MC.Props.C13
import MC.Props.C19
import MC.Props.C20
import MC.Props.C07
import MC.Props.C16
import MC.Props.C16Fold
import MC.Props.C16Locale
import MC.Props.C03Stack
import MC.Props.C03
import MC.Props.C03NoPanic
import MC.Props.C03Sep
import MC.Props.C03SepSpec
import MC.Props.C02
import MC.Props.C09
import MC.Props.C01Norm
import MC.Props.C01
import MC.Props.C04
import MC.Props.C05
import MC.Props.C06
import MC.Props.C15
import MC.Props.C15Files
import MC.Props.C10
import MC.Props.C14
import MC.Props.C08
