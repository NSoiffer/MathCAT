import MC.Model.Highlight
/-!
# C20 — braille highlighting and cursor routing are safe and side-effect free: the highlight arithmetic

(The routing half, `get_navigation_node_from_braille_position`, is decided on the implementation by the check;
`MC.Highlight.fromPosition` transcribes its wrapper (which preference value it leaves behind), and no theorem is about it.)

All statements are about `MC.Highlight` (character-index model of `highlight_braille_chars`), for EVERY string of braille
cells, every code and both fill settings.
-/
namespace MC.Props.C20
open MC.Highlight

/-- `f` changes nothing but dots 7 and 8 of a braille cell -/
def Dots78 (f : Nat → Nat) : Prop := ∀ c, isCell c = true → isCell (f c) = true ∧ erase78 (f c) = erase78 c

theorem cells_hl_unhl : ∀ k, k < 256 →
    (isCell (hl (0x2800 + k)) = true ∧ erase78 (hl (0x2800 + k)) = erase78 (0x2800 + k)) ∧
    (isCell (unhl (0x2800 + k)) = true ∧ erase78 (unhl (0x2800 + k)) = erase78 (0x2800 + k)) := by decide +kernel

theorem cell_as_offset (c : Nat) (h : isCell c = true) : ∃ k, k < 256 ∧ c = 0x2800 + k := by
  unfold isCell at h
  simp only [Bool.and_eq_true, decide_eq_true_eq] at h
  exact ⟨c - 0x2800, by omega, by omega⟩

theorem hl_dots78 : Dots78 hl := fun c h => by
  obtain ⟨k, hk, rfl⟩ := cell_as_offset c h
  exact (cells_hl_unhl k hk).1

theorem unhl_dots78 : Dots78 unhl := fun c h => by
  obtain ⟨k, hk, rfl⟩ := cell_as_offset c h
  exact (cells_hl_unhl k hk).2

/-! ## strings: every step of the highlighter rewrites a segment of the string cell by cell -/

def Only78 (s s' : Str) : Prop :=
  s'.length = s.length ∧ (allCells s = true → allCells s' = true ∧ s'.map erase78 = s.map erase78)

theorem Only78.refl (s : Str) : Only78 s s := ⟨rfl, fun h => ⟨h, rfl⟩⟩

theorem Only78.trans {a b c : Str} (h₁ : Only78 a b) (h₂ : Only78 b c) : Only78 a c :=
  ⟨h₂.1.trans h₁.1, fun ha => ⟨(h₂.2 (h₁.2 ha).1).1, (h₂.2 (h₁.2 ha).1).2.trans (h₁.2 ha).2⟩⟩

theorem Only78.mapMid {f : Nat → Nat} (hf : Dots78 f) (P M Q : Str) : Only78 (P ++ M ++ Q) (P ++ M.map f ++ Q) := by
  refine ⟨by simp, fun hc => ?_⟩
  simp only [allCells, List.all_append, List.all_map, Bool.and_eq_true, List.map_append, List.map_map] at hc ⊢
  have hM : ∀ c ∈ M, isCell (f c) = true ∧ erase78 (f c) = erase78 c := fun c h => hf c (List.all_eq_true.mp hc.1.2 c h)
  constructor
  · -- cells: those of `P` and `Q` are untouched, those of `M` go through `f`
    exact ⟨⟨hc.1.1, List.all_eq_true.mpr fun c h => (hM c h).1⟩, hc.2⟩
  · -- the same string once dots 7 and 8 are cleared: `erase78 ∘ f` agrees with `erase78` on `M`
    rw [List.map_congr_left (f := erase78 ∘ f) (g := erase78) fun c h => (hM c h).2]

/-- in the model nothing happens if `i` is out of range -/
theorem Only78.set {f : Nat → Nat} (hf : Dots78 f) (s : Str) (i : Nat) : Only78 s (s.set i (f (s.getD i 0))) := by
  by_cases hi : i < s.length
  · have := Only78.mapMid hf (s.take i) [s[i]] (s.drop (i + 1))
    simpa [List.set_eq_take_append_cons_drop, hi] using this
  · rw [List.set_eq_of_length_le (by omega)]
    exact Only78.refl s

theorem Only78.fill (s : Str) (a b : Nat) (hab : a ≤ b) :
    Only78 s (s.take a ++ ((s.drop a).take (b - a)).map hl ++ s.drop b) := by
  have := Only78.mapMid hl_dots78 (s.take a) ((s.drop a).take (b - a)) ((s.drop a).drop (b - a))
  rwa [List.append_assoc, List.take_append_drop, List.take_append_drop, List.drop_drop, Nat.add_sub_cancel' hab] at this

/-- `findFirst` is the library's `findIdx?`, whose characterisation serves below -/
theorem findFirst_eq (p : Nat → Bool) (s : Str) : findFirst p s = s.findIdx? p := by
  induction s with
  | nil => rfl
  | cons c cs ih => simp [findFirst, List.findIdx?_cons, ih]

theorem findFirst_lt (p : Nat → Bool) (s : Str) (i : Nat) (h : findFirst p s = some i) : i < s.length := by
  rw [findFirst_eq] at h
  exact (List.findIdx?_eq_some_iff_getElem.mp h).1

theorem findLast_spec (p : Nat → Bool) (s : Str) (j : Nat) (h : findLast p s = some j) : ∃ hj : j < s.length, p s[j] = true := by
  induction s generalizing j with
  | nil => cases h
  | cons c cs ih =>
    simp only [findLast] at h
    split at h
    · rename_i i hi
      cases h
      obtain ⟨hlt, hp⟩ := ih i hi
      exact ⟨Nat.succ_lt_succ hlt, hp⟩
    · split at h
      · rename_i hc
        cases h
        exact ⟨Nat.zero_lt_succ _, hc⟩
      · cases h

theorem findFirst_le_findLast (p : Nat → Bool) (s : Str) (i j : Nat) (h1 : findFirst p s = some i) (h2 : findLast p s = some j) :
    i ≤ j := by
  rw [findFirst_eq] at h1
  obtain ⟨_, _, hno⟩ := List.findIdx?_eq_some_iff_getElem.mp h1
  obtain ⟨_, hp⟩ := findLast_spec p s j h2
  exact Nat.le_of_not_lt fun hlt => hno j hlt hp

/-! ## the examined prefix lies in front of the first marked cell -/

theorem findFirst_ge_of_startsWith (q : Nat → Bool) (s pre : Str) (i : Nat) (hs : startsWith s pre = true)
    (hp : pre.all (fun c => !q c) = true) (hf : findFirst q s = some i) : pre.length ≤ i := by
  induction pre generalizing s i with
  | nil => simp
  | cons p ps ih =>
    cases s with
    | nil => simp [startsWith] at hs
    | cons c cs =>
      simp only [startsWith, Bool.and_eq_true, decide_eq_true_eq] at hs
      simp only [List.all_cons, Bool.and_eq_true, Bool.not_eq_true'] at hp
      simp only [findFirst] at hf
      have hq : q c = false := by rw [hs.1]; exact hp.1
      simp only [hq, Bool.false_eq_true, if_false] at hf
      obtain ⟨j, hj, rfl⟩ := Option.map_eq_some_iff.mp hf
      exact Nat.succ_le_succ (ih cs j hs.2 hp.2 hj)

theorem prefixIndex_le (code : Nat) (s : Str) (start : Nat) (hf : findFirst isHl s = some start) :
    prefixIndex code s start ≤ start := by
  unfold prefixIndex
  simp only
  split
  · -- UEB at the start of the string: the prefix begins behind three or two leading `⠰`, which are not marked cells
    split
    next h3 => exact findFirst_ge_of_startsWith isHl s [0x2830, 0x2830, 0x2830] start h3 (by decide +kernel) hf
    next =>
      split
      next h2 => exact findFirst_ge_of_startsWith isHl s [0x2830, 0x2830] start h2 (by decide +kernel) hf
      next => omega
  · omega

theorem indicatorCount_le (code : Nat) (s : Str) (start : Nat) : indicatorCount code s start ≤ start :=
  Nat.le_trans (Nat.min_le_right _ _) (by simp only [List.length_take, List.length_drop]; omega)

/-- `highlight_first_indicator`, called at the first marked cell, stays inside the string (with the fix that limits the
indicator count to the cells examined) -/
theorem firstIndicator_spec (code : Nat) (s : Str) (start end_ : Nat) (hf : findFirst isHl s = some start) :
    ∃ s' st, firstIndicator code s start end_ = some (s', st) ∧ st ≤ start ∧ Only78 s s' := by
  unfold firstIndicator
  rw [if_neg (Nat.not_lt.mpr (prefixIndex_le code s start hf)), if_neg (Nat.not_lt.mpr (indicatorCount_le code s start))]
  dsimp only
  split
  · refine ⟨_, _, rfl, Nat.sub_le _ _, Only78.trans ?_ (Only78.set hl_dots78 _ _)⟩
    split
    · exact Only78.set unhl_dots78 s start
    · exact Only78.refl s
  · exact ⟨_, _, rfl, Nat.sub_le _ _, Only78.refl s⟩

theorem highlightChars_spec (code : Nat) (fill : Bool) (s : Str) :
    ∃ s' a b, highlightChars code fill s = some (s', a, b) ∧ a ≤ b ∧ b ≤ s.length ∧ Only78 s s' := by
  unfold highlightChars
  split
  next start end_ hf hlast =>
    obtain ⟨s1, st, hfi, hst, he⟩ := firstIndicator_spec code s start end_ hf
    have hle := findFirst_le_findLast isHl s start end_ hf hlast
    obtain ⟨hlt, _⟩ := findLast_spec isHl s end_ hlast
    rw [hfi]
    dsimp only
    split
    · exact ⟨_, _, _, rfl, by omega, by omega, he⟩
    · exact ⟨_, _, _, rfl, by omega, by omega, he.trans (Only78.fill s1 st end_ (by omega))⟩
  next => exact ⟨_, _, _, rfl, Nat.zero_le _, Nat.le_refl _, Only78.refl s⟩   -- no marked cell: the string as it is

/-- **no panic**: for every string and every code the highlight arithmetic stays in range (no slice out of range, no
underflow) -/
theorem highlightChars_no_panic (code : Nat) (fill : Bool) (s : Str) : highlightChars code fill s ≠ none := by
  obtain ⟨_, _, _, h, _⟩ := highlightChars_spec code fill s
  simp [h]

/-- **positions are inside the string**: `start ≤ end ≤ length`, and highlighting never changes the number of cells -/
theorem positions_in_range (code : Nat) (fill : Bool) (s s' : Str) (a b : Nat)
    (h : highlightChars code fill s = some (s', a, b)) : a ≤ b ∧ b ≤ s'.length ∧ s'.length = s.length := by
  obtain ⟨_, _, _, h', hab, hb, he⟩ := highlightChars_spec code fill s
  cases h.symm.trans h'
  exact ⟨hab, he.1 ▸ hb, he.1⟩

/-- **only dots 7-8 change**: for every string of cells, every code and style, the output equals the input once dots 7 and 8
are cleared everywhere -/
theorem only_dots78_change (code : Nat) (fill : Bool) (s s' : Str) (a b : Nat) (hc : allCells s = true)
    (h : highlightChars code fill s = some (s', a, b)) : s'.map erase78 = s.map erase78 := by
  obtain ⟨_, _, _, h', _, _, he⟩ := highlightChars_spec code fill s
  cases h.symm.trans h'
  exact (he.2 hc).2

/-- with no marked cell in the input the function is the identity and reports the whole string -/
theorem no_mark_identity (code : Nat) (fill : Bool) (s : Str) (h : findFirst isHl s = none) :
    highlightChars code fill s = some (s, 0, s.length) := by
  unfold highlightChars
  simp [h]

/-- **highlighting off**: `braille_mathml` returns the cleaned braille untouched -/
theorem off_is_identity (code : Nat) (found : Bool) (s : Str) : brailleResult code "Off" found s = some (s, 0, s.length) := by
  simp [brailleResult]

/-- **no node, no highlight**: with an id that is empty or not in the expression the braille is returned untouched, in every
style and whatever cells it contains (the matrix row separator ⣍ has dots 7-8 by itself) -/
theorem unknown_id_is_identity (code : Nat) (style : String) (s : Str) : brailleResult code style false s = some (s, 0, s.length) := by
  simp [brailleResult]

/-- the situation of the fix: Nemeth braille that begins with the two-cell Russian indicator and a marked letter
(`<mi>б</mi>` first in an expression) highlights from the first cell -/
example : highlightChars 0 false [0x2808, 0x2808, 0x28C3, 0x282C, 0x2802] = some ([0x28C8, 0x2808, 0x28C3, 0x282C, 0x2802], 0, 2) := by
  decide +kernel
example : highlightChars 1 true [0x2830, 0x2830, 0x2820, 0x28C1, 0x2816, 0x28C3] =
    some ([0x2830, 0x2830, 0x28E0, 0x28C1, 0x28D6, 0x28C3], 2, 5) := by decide +kernel

end MC.Props.C20
