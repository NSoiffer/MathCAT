import MC.Model.Numbers
/-!
# C16 — split numbers fold into the same number as the unsplit form (recognisers)

The locale number grammar, for ANY separator sets `B` (block) and `D` (decimal) that are disjoint and digit-free:
lead group of 1–3 digits, any number of 3-digit groups each preceded by one block separator, and optionally a decimal mark
followed by any digits (possibly none).
-/
namespace MC.Props.C16
open MC.Numbers

structure GoodSeps (S : Seps) : Prop where
  blockNoDigit : ∀ c ∈ S.block, isDig c = false
  decNoDigit : ∀ c ∈ S.dec, isDig c = false
  disjoint : ∀ c ∈ S.block, S.dec.contains c = false

/-- integer part: lead ++ (sep :: group)* -/
def intText (lead : Str) (groups : List (Nat × Str)) : Str := lead ++ groups.flatMap fun g => g.1 :: g.2

structure GoodInt (S : Seps) (lead : Str) (groups : List (Nat × Str)) : Prop where
  leadDig : allDig lead = true
  leadLen : 1 ≤ lead.length ∧ lead.length ≤ 3
  groupOk : ∀ g ∈ groups, S.block.contains g.1 = true ∧ allDig g.2 = true ∧ g.2.length = 3

theorem allDig_iff {s : Str} : allDig s = true ↔ ∀ c ∈ s, isDig c = true := List.all_eq_true

theorem GoodSeps.dig_not_block {S : Seps} (hS : GoodSeps S) (c : Nat) (h : isDig c = true) : S.block.contains c = false :=
  Bool.eq_false_iff.mpr fun hb => Bool.false_ne_true ((hS.blockNoDigit c (List.contains_iff_mem.mp hb)).symm.trans h)

theorem GoodSeps.dig_not_dec {S : Seps} (hS : GoodSeps S) (c : Nat) (h : isDig c = true) : S.dec.contains c = false :=
  Bool.eq_false_iff.mpr fun hb => Bool.false_ne_true ((hS.decNoDigit c (List.contains_iff_mem.mp hb)).symm.trans h)

theorem span_stop (p : Nat → Bool) (c : Nat) (cs : Str) (h : p c = false) : span p (c :: cs) = ([], c :: cs) := by
  simp [span, h]

theorem span_spec (p : Nat → Bool) (s : Str) :
    (span p s).1 ++ (span p s).2 = s ∧ (∀ c ∈ (span p s).1, p c = true) ∧ ∀ d r, (span p s).2 = d :: r → p d = false := by
  induction s with
  | nil => exact ⟨rfl, nofun, nofun⟩
  | cons c cs ih =>
    obtain ⟨happ, hin, hstop⟩ := ih
    cases hc : p c with
    | true =>
      rw [show span p (c :: cs) = (c :: (span p cs).1, (span p cs).2) by simp [span, hc]]
      exact ⟨congrArg (c :: ·) happ, fun x hx => (List.mem_cons.mp hx).elim (· ▸ hc) (hin x), hstop⟩
    | false =>
      rw [span_stop p c cs hc]
      exact ⟨rfl, nofun, fun d r h => (List.cons.inj h).1 ▸ hc⟩

theorem span_eq (p : Nat → Bool) (a b : Str) (ha : ∀ c ∈ a, p c = true) (hb : ∀ d r, b = d :: r → p d = false) :
    span p (a ++ b) = (a, b) := by
  induction a with
  | nil =>
    cases b with
    | nil => rfl
    | cons d r => exact span_stop p d r (hb d r rfl)
  | cons c cs ih => simp [span, ha c (by simp), ih fun x hx => ha x (by simp [hx])]

/-! ## completeness: the recognisers accept the grammar -/

theorem groupsTail_groups (S : Seps) (groups : List (Nat × Str))
    (hg : ∀ g ∈ groups, S.block.contains g.1 = true ∧ allDig g.2 = true ∧ g.2.length = 3) (fuel : Nat)
    (hf : (groups.flatMap fun g => g.1 :: g.2).length ≤ fuel) :
    groupsTail S.block fuel (groups.flatMap fun g => g.1 :: g.2) = true := by
  induction groups generalizing fuel with
  | nil => cases fuel <;> rfl
  | cons g gs ih =>
    obtain ⟨hb, hd, hl⟩ := hg g (by simp)
    simp only [List.flatMap_cons, List.cons_append, List.length_cons, List.length_append] at hf ⊢
    obtain ⟨f, rfl⟩ : ∃ f, fuel = f + 1 := ⟨fuel - 1, by omega⟩
    simp only [groupsTail, hb, if_true, List.take_left' hl, List.drop_left' hl, hl, hd, decide_true, Bool.true_and]
    exact ih (fun g' hg' => hg g' (by simp [hg'])) f (by omega)

theorem intOk_grammar (S : Seps) (lead : Str) (groups : List (Nat × Str)) (h : GoodInt S lead groups) :
    intOk S.block (intText lead groups) = true := by
  unfold intOk intText
  rw [Bool.or_eq_true, List.any_eq_true]
  refine .inr ⟨lead.length, by have := h.leadLen; simp only [List.mem_cons, List.not_mem_nil, or_false]; omega, ?_⟩
  rw [List.take_left, List.drop_left, h.leadDig]
  simpa using groupsTail_groups S groups h.groupOk _ (by simp)

/-- digits and block separators only, hence no decimal separator -/
theorem intText_no_dec (S : Seps) (hS : GoodSeps S) (lead : Str) (groups : List (Nat × Str)) (h : GoodInt S lead groups) :
    ∀ c ∈ intText lead groups, (!S.dec.contains c) = true := by
  have dig : ∀ c, isDig c = true → (!S.dec.contains c) = true := fun c hc => by rw [hS.dig_not_dec c hc]; rfl
  unfold intText
  rw [List.forall_mem_append]
  refine ⟨fun c hc => dig c (allDig_iff.mp h.leadDig c hc), fun c hc => ?_⟩
  obtain ⟨g, hg, hc⟩ := List.mem_flatMap.mp hc
  obtain ⟨hb, hd, _⟩ := h.groupOk g hg
  rcases List.mem_cons.mp hc with rfl | hc
  · rw [hS.disjoint _ (List.contains_iff_mem.mp hb)]; rfl
  · exact dig c (allDig_iff.mp hd c hc)

/-- **every number of the locale grammar is recognised** (3-digit block pattern), for every separator setting:
integer numbers, numbers with a fraction, and numbers with a trailing decimal mark -/
theorem grammar_accepted (S : Seps) (hS : GoodSeps S) (lead : Str) (groups : List (Nat × Str)) (h : GoodInt S lead groups)
    (frac : Option (Nat × Str)) (hfr : ∀ d fd, frac = some (d, fd) → S.dec.contains d = true ∧ allDig fd = true) :
    blockPattern 3 S (intText lead groups ++ (match frac with | none => [] | some (d, fd) => d :: fd)) = true := by
  have hint := intOk_grammar S lead groups h
  unfold blockPattern
  rw [span_eq _ _ _ (intText_no_dec S hS lead groups h)]
  · cases frac with
    | none => exact hint
    | some p => simp [hint, fracOk, (hfr p.1 p.2 rfl).2]
  · intro d r he
    cases frac with
    | none => cases he
    | some p =>
      cases he
      rw [(hfr p.1 p.2 rfl).1]
      rfl

/-- a leading decimal mark followed by digits (".5") is recognised as well -/
theorem leading_mark_accepted (S : Seps) (d : Nat) (fd : Str) (hd : S.dec.contains d = true) (hfd : allDig fd = true) :
    blockPattern 3 S (d :: fd) = true := by
  unfold blockPattern
  rw [span_stop _ d fd (by rw [hd]; rfl)]
  simp [intOk, fracOk, hfd, show allDig [] = true from rfl]

/-! ## soundness: what the recognisers accept contains nothing but digits and separators -/

theorem forall_mem_of_take_drop {P : Nat → Prop} (k : Nat) (s : Str) (h1 : ∀ c ∈ s.take k, P c) (h2 : ∀ c ∈ s.drop k, P c) :
    ∀ c ∈ s, P c := by
  rw [← List.take_append_drop k s, List.forall_mem_append]
  exact ⟨h1, h2⟩

theorem groupsTail_alphabet (B : List Nat) (fuel : Nat) (s : Str) (h : groupsTail B fuel s = true) :
    ∀ c ∈ s, isDig c = true ∨ B.contains c = true := by
  induction fuel generalizing s with
  | zero =>
    cases s with
    | nil => nofun
    | cons c r => cases h
  | succ f ih =>
    cases s with
    | nil => nofun
    | cons c r =>
      simp only [groupsTail, Bool.and_eq_true] at h
      -- three digits, then the tail
      have body : ∀ b : Str, allDig (b.take 3) = true → groupsTail B f (b.drop 3) = true → ∀ x ∈ b, isDig x = true ∨ B.contains x = true :=
        fun b hd ht => forall_mem_of_take_drop 3 b (fun x hx => .inl (allDig_iff.mp hd x hx)) (ih _ ht)
      by_cases hb : B.contains c = true
      · simp only [hb, if_true] at h
        exact List.forall_mem_cons.mpr ⟨.inr hb, body r h.1.2 h.2⟩
      · simp only [hb, Bool.false_eq_true, if_false] at h
        exact body (c :: r) h.1.2 h.2

theorem intOk_alphabet (B : List Nat) (s : Str) (h : intOk B s = true) : ∀ c ∈ s, isDig c = true ∨ B.contains c = true := by
  unfold intOk at h
  rw [Bool.or_eq_true, List.any_eq_true] at h
  rcases h with h | ⟨k, _, h⟩
  · exact fun c hc => .inl (allDig_iff.mp h c hc)
  · simp only [Bool.and_eq_true] at h
    exact forall_mem_of_take_drop k s (fun c hc => .inl (allDig_iff.mp h.1.2 c hc)) (groupsTail_alphabet B _ _ h.2)

theorem fracGroups_alphabet (n : Nat) (B : List Nat) (fuel : Nat) (s : Str) (h : fracGroups n B fuel s = true) :
    ∀ c ∈ s, isDig c = true ∨ B.contains c = true := by
  induction fuel generalizing s with
  | zero => cases h
  | succ f ih =>
    obtain ⟨happ, hdig, _⟩ := span_spec isDig s
    simp only [fracGroups] at h
    rw [← happ, List.forall_mem_append]
    refine ⟨fun c hc => .inl (hdig c hc), ?_⟩
    split at h
    · rename_i heq
      rw [heq]
      nofun
    · rename_i c r heq
      simp only [Bool.and_eq_true] at h
      rw [heq]
      exact List.forall_mem_cons.mpr ⟨.inr h.1.2, ih r h.2⟩

/-- **folding never absorbs a foreign character**: a text accepted by the block pattern consists of ASCII digits, block
separators and decimal separators only -/
theorem accepted_alphabet (n : Nat) (S : Seps) (s : Str) (h : blockPattern n S s = true) :
    ∀ c ∈ s, isDig c = true ∨ S.block.contains c = true ∨ S.dec.contains c = true := by
  have widen : ∀ c, isDig c = true ∨ S.block.contains c = true → isDig c = true ∨ S.block.contains c = true ∨ S.dec.contains c = true :=
    fun c hc => hc.elim .inl (.inr ∘ .inl)
  obtain ⟨happ, _, hstop⟩ := span_spec (fun c => !S.dec.contains c) s
  unfold blockPattern at h
  rw [← happ, List.forall_mem_append]
  split at h
  · rename_i ip heq
    rw [heq]
    exact ⟨fun c hc => widen c (intOk_alphabet S.block ip h c hc), nofun⟩
  · rename_i ip d fp heq
    rw [heq] at hstop ⊢
    simp only [Bool.and_eq_true, fracOk, Bool.or_eq_true] at h
    refine ⟨fun c hc => widen c (intOk_alphabet S.block ip h.1 c hc), List.forall_mem_cons.mpr ⟨?_, fun c hc => ?_⟩⟩
    · exact .inr (.inr (by simpa using hstop d fp rfl))
    · exact h.2.elim (fun hd => .inl (allDig_iff.mp hd c hc)) (fun hg => widen c (fracGroups_alphabet n S.block _ fp hg c hc))

/-- when the first and the last token are not blank, `trim_whitespace` trims nothing -/
theorem mergeBlock_ends (ts : List Tok) (hne : ts ≠ []) (h1 : isBlankTok (ts.head hne) = false)
    (h2 : isBlankTok (ts.getLast hne) = false) : mergeBlock ts = [⟨0, (ts.map (·.text)).flatten⟩] := by
  have stop : ∀ (us : List Tok) (hu : us ≠ []), isBlankTok (us.head hu) = false → us.takeWhile isBlankTok = [] := by
    intro us hu h
    obtain ⟨u, r, rfl⟩ := List.exists_cons_of_ne_nil hu
    exact List.takeWhile_cons_of_neg (Bool.eq_false_iff.mp h)
  have hlead := stop ts hne h1
  have htrail := stop ts.reverse (mt List.reverse_eq_nil_iff.mp hne) (by rwa [List.head_reverse])
  obtain ⟨t, r, rfl⟩ := List.exists_cons_of_ne_nil hne
  unfold mergeBlock
  simp only [hlead, htrail, List.length_nil, List.length_cons, List.drop_zero, List.nil_append]
  simp

/-- **`merge_block` keeps every character**: with no blank token the merged token is the concatenation of the texts -/
theorem mergeBlock_text (ts : List Tok) (h : ∀ t ∈ ts, isBlankTok t = false) (hne : ts ≠ []) :
    mergeBlock ts = [⟨0, (ts.map (·.text)).flatten⟩] :=
  mergeBlock_ends ts hne (h _ (List.head_mem hne)) (h _ (List.getLast_mem hne))

/-- non-vacuity and worked examples with the default English and German separator settings -/
def en : Seps := { block := [44, 32, 0xA0, 0x202F], dec := [46] }
def de : Seps := { block := [46, 32, 0xA0, 0x202F], dec := [44] }
def t (k : Nat) (s : String) : Tok := ⟨k, s.toList.map Char.toNat⟩
example : mergeRow en [t 3 "x", t 1 "=", t 0 "1", t 1 ",", t 0 "234", t 1 ".", t 0 "5", t 1 "+", t 3 "y"] =
    [t 3 "x", t 1 "=", t 0 "1,234.5", t 1 "+", t 3 "y"] := by decide +kernel
example : mergeRow de [t 0 "1", t 1 ".", t 0 "234", t 1 ",", t 0 "5"] = [t 0 "1.234,5"] := by decide +kernel
example : mergeRow en [t 0 "1", t 1 ",", t 0 "23"] = [t 0 "1", t 1 ",", t 0 "23"] := by decide +kernel
example : blockPattern 3 en ("12,34".toList.map Char.toNat) = false := by decide +kernel

end MC.Props.C16
