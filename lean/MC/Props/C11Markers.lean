import MC.Props.C11
/-!
# C11, the place-marker clause — a place marker stays where it was set

The part of "setting a place marker and later moving to it returns to the marked node" that is bookkeeping: `SetPlacemarkerK`
stores the rules' `NavNode` in marker `K` and touches no other marker; no other command, retried or not, and no
`set_navigation_node` changes any marker; only a new expression clears them. Hence marker `K` is unchanged by every history of
calls on one expression none of which is a `SetPlacemarkerK`, a `SetPlacemarkerJ` for another `J` included (`marker_survives`,
where a failed call counts as leaving the state as it was): when `MoveToK` is given, the rules read in marker `K` what the last
`SetPlacemarkerK` on this expression stored. That the rules then move there is an environment parameter of the model; the marker
oracle of checks/c11.py decides it on the implementation.
-/
namespace MC.Props.C11Markers
open MC.Nav MC.Props.C11

theorem push_markers (s : NavState) (p : Pos) (c : String) : (push s p c).markers = s.markers := rfl
theorem reset_markers (s : NavState) : (reset s).markers = s.markers := rfl

theorem Update.markers {root cmd : String} {N : Pos → Prop} {a b : NavState} (u : Update root cmd N a b) :
    b.markers = a.markers ∨
    (cmd.startsWith "SetPlacemarker" = true ∧ ∃ p k, N p ∧ markerIndex cmd = some k ∧ b.markers = a.markers.set k p) := by
  cases u with
  | mark hm hk hn => exact .inr ⟨hm, _, _, hn, hk, rfl⟩
  | _ => exact .inl rfl

theorem doCommand_markers (rootId : String) (ids : String → Bool) (cmd : String) (tries : List Try) (s s' : NavState)
    (h : doCommand rootId ids cmd tries s = .ok s') :
    s'.markers = s.markers ∨ (cmd.startsWith "SetPlacemarker" = true ∧
      ∃ p k, (∃ t ∈ tries, t.node = some p) ∧ markerIndex cmd = some k ∧ s'.markers = s.markers.set k p) := by
  apply doCommand_preserves (N := fun p => ∃ t ∈ tries, t.node = some p) ?_ (fun t ht p hp => ⟨t, ht, hp⟩) h (.inl rfl)
  intro a b u ha
  rcases Update.markers u with e | ⟨hm, p, k, hp, hk, e⟩
  · rwa [e]
  · refine .inr ⟨hm, p, k, hp, hk, ?_⟩
    -- a second write goes to the same marker, since the index is read off the command
    rcases ha with ea | ⟨_, _, k', _, hk', ea⟩
    · rw [e, ea]
    · cases hk.symm.trans hk'
      rw [e, ea, List.set_set]

/-- **no command but `SetPlacemarker…` changes a place marker**, whatever the rules answer on any of its tries -/
theorem command_keeps_markers (rootId : String) (ids : String → Bool) (cmd : String) (hc : cmd.startsWith "SetPlacemarker" = false)
    (tries : List Try) (s s' : NavState) (h : doCommand rootId ids cmd tries s = .ok s') : s'.markers = s.markers :=
  (doCommand_markers rootId ids cmd tries s s' h).resolve_right fun h' => by simp [hc] at h'

theorem setNode_keeps_markers (s s' : NavState) (id : String) (off : Nat) (found leaf : Bool) (h : setNode s id off found leaf = .ok s') :
    s'.markers = s.markers := by
  obtain ⟨_, rfl⟩ := setNode_ok h
  rfl

/-- a command answered by the rules in one try either leaves the markers as they were or is a `SetPlacemarkerK` that wrote the
node `p` the rules answered into marker `K`, and only there -/
theorem set_marker_stores (rootId : String) (ids : String → Bool) (cmd : String) (t : Try) (s s' : NavState)
    (h : doCommand rootId ids cmd [t] s = .ok s') :
    s'.markers = s.markers ∨ ∃ p k, t.node = some p ∧ markerIndex cmd = some k ∧ s'.markers = s.markers.set k p := by
  rcases doCommand_markers rootId ids cmd [t] s s' h with e | ⟨_, p, k, ⟨t', ht', hp⟩, hk, e⟩
  · exact .inl e
  · rw [List.mem_singleton.1 ht'] at hp
    exact .inr ⟨p, k, hp, hk, e⟩

theorem new_expression_clears (s : NavState) : (resetForNewMathml s).markers = List.replicate 10 Pos.dflt := rfl

/-- one call on the current expression: a command with the rules' answers to its tries, or `set_navigation_node` -/
inductive Step where
  | cmd (c : String) (tries : List Try)
  | setNode (id : String) (off : Nat) (found leaf : Bool)

def runStep (rootId : String) (ids : String → Bool) (s : NavState) : Step → NavState
  | .cmd c tries => match doCommand rootId ids c tries s with | .ok s' => s' | _ => s
  | .setNode id off found leaf => match setNode s id off found leaf with | .ok s' => s' | _ => s

def noSetMarker : Step → Prop
  | .cmd c _ => c.startsWith "SetPlacemarker" = false
  | .setNode .. => True

/-- the step does not write marker `j`: it is no `SetPlacemarker…` command, or one whose index is not `j` -/
def leaves (j : Nat) : Step → Prop
  | .cmd c _ => c.startsWith "SetPlacemarker" = true → markerIndex c ≠ some j
  | .setNode .. => True

theorem runStep_marker (rootId : String) (ids : String → Bool) (s : NavState) (j : Nat) (st : Step) (h : leaves j st) :
    (runStep rootId ids s st).markers[j]? = s.markers[j]? := by
  cases st with
  | cmd c tries =>
    simp only [runStep]
    split
    · rename_i s' hd
      rcases doCommand_markers rootId ids c tries s s' hd with e | ⟨hm, p, k, _, hk, e⟩
      · rw [e]
      · rw [e, List.getElem?_set_ne fun (ekj : k = j) => h hm (ekj ▸ hk)]
    · rfl
  | setNode id off found leaf =>
    simp only [runStep]
    split
    · rename_i s' hd
      rw [setNode_keeps_markers s s' id off found leaf hd]
    · rfl

/-- **marker `j` survives every history on the same expression in which nothing writes marker `j`**: after any sequence of
`set_navigation_node` calls and of commands none of which is a `SetPlacemarkerj` (other `SetPlacemarker…` commands are allowed;
any rule answers; a failed command leaves the state as it was), marker `j` is what it was. With `set_marker_stores`: marker `j`
holds what the last accepted `SetPlacemarkerj` on this expression stored. -/
theorem marker_survives (rootId : String) (ids : String → Bool) (j : Nat) (steps : List Step) (hs : ∀ st ∈ steps, leaves j st)
    (s : NavState) : (steps.foldl (runStep rootId ids) s).markers[j]? = s.markers[j]? := by
  induction steps generalizing s with
  | nil => rfl
  | cons st rest ih =>
    rw [List.foldl_cons, ih (fun x hx => hs x (List.mem_cons_of_mem _ hx)), runStep_marker _ _ _ _ _ (hs st (List.mem_cons_self ..))]

/-- **a marker survives every history of other commands on the same expression**: after any sequence of `set_navigation_node` calls
and of commands none of which is a `SetPlacemarker…` (any rule answers; a failed command leaves the state as it was), every marker
is what it was -/
theorem markers_survive (rootId : String) (ids : String → Bool) (steps : List Step) (hs : ∀ st ∈ steps, noSetMarker st) (s : NavState) :
    (steps.foldl (runStep rootId ids) s).markers = s.markers := by
  refine List.ext_getElem? fun j => marker_survives rootId ids j steps (fun st hst => ?_) s
  have h := hs st hst
  cases st with
  | cmd c _ => exact fun hm => nomatch h.symm.trans hm
  | setNode => trivial

def tSet : Try := { ruleErr := false, node := some ⟨"a", 0⟩, mode := "Enhanced", overview := false, inTree := true, speak := false,
                    speakErr := false, speechEmpty := false }

/-- `SetPlacemarker3` with the rules answering node `a` is accepted and stores `a` in marker 3 … -/
example : (match doCommand "r" (fun _ => true) "SetPlacemarker3" [tSet] init with
    | .ok s => s.markers[3]? | _ => none) = some ⟨"a", 0⟩ := by decide +kernel

/-- … and a later `MoveNext` to node `b` (accepted, pushes `b`) leaves it there -/
example : (match doCommand "r" (fun _ => true) "SetPlacemarker3" [tSet] init with
    | .ok s => (match doCommand "r" (fun _ => true) "MoveNext" [{ tSet with node := some ⟨"b", 0⟩ }] s with
        | .ok s' => (s'.markers[3]?, s'.positions.head?) | _ => (none, none))
    | _ => (none, none)) = (some ⟨"a", 0⟩, some ⟨"b", 0⟩) := by decide +kernel

end MC.Props.C11Markers
