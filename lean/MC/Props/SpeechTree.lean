import MC.Props.SpeechJoin
/-!
The recursion of the speech engine over rule applications, as a tree of replacement pieces, and the lift of the
join-level facts to every such tree (any nesting depth, any number of pieces): one induction for what is deleted and
inserted, one for the placeholder.
-/
namespace MC.Speech

/-- the trace of evaluating one rule: its replacement array, piece by piece -/
inductive Sp where
  | lit (s : Str)          -- `t:` / `ct:` / `ot:` (with their marker characters), a fixed `pause:`, `x:` on text or an attribute
  | auto                   -- `pause: auto`
  | arr (kids : List Sp)   -- a replacement array: a rule's `replace:`, a `then:`/`else:` branch, the body of `with:` ...
  | nodes (kids : List Sp) -- `x:` selecting several nodes: the results for the nodes joined by single spaces

def Sp.isAuto : Sp → Bool
  | .auto => true
  | _ => false

mutual
def eval (pf : Nat) : Sp → Str
  | .lit s => s
  | .auto => autoStr
  | .arr ks =>
    let xs := (evalL pf ks).filter (fun x => !x.isEmpty)      -- empty replacement strings are skipped
    if xs.isEmpty then [] else joinArray pf xs
  | .nodes ks => joinSp (evalL pf ks)
def evalL (pf : Nat) : List Sp → List Str
  | [] => []
  | k :: ks => eval pf k :: evalL pf ks
end

/-- `speak_rules`: evaluate the matched rule, then clean up -/
def speak (pf : Nat) (t : Sp) : Str := finalize (eval pf t)

mutual
/-- literal pieces hold no placeholder character; the nodes selected by `x:` are spoken by rules (never a bare `pause: auto`) -/
def WF : Sp → Prop
  | .lit s => FA ∉ s
  | .auto => True
  | .arr ks => WFL ks
  | .nodes ks => WFL ks ∧ ks.all (fun k => !k.isAuto) = true
def WFL : List Sp → Prop
  | [] => True
  | k :: ks => WF k ∧ WFL ks
end

mutual
def lits : Sp → List Str
  | .lit s => [s]
  | .auto => []
  | .arr ks => litsL ks
  | .nodes ks => litsL ks
def litsL : List Sp → List Str
  | [] => []
  | k :: ks => lits k ++ litsL ks
end

mutual
/-- hypothesis of the partial content theorem: every string entering a join is `FrontClean` -/
def FC (q : Nat → Bool) (pf : Nat) : Sp → Prop
  | .lit _ => True
  | .auto => True
  | .arr ks => FCL q pf ks ∧ ∀ x ∈ evalL pf ks, FrontClean q x
  | .nodes ks => FCL q pf ks
def FCL (q : Nat → Bool) (pf : Nat) : List Sp → Prop
  | [] => True
  | k :: ks => FC q pf k ∧ FCL q pf ks
end

theorem evalL_eq_map (pf : Nat) : ∀ ks : List Sp, evalL pf ks = ks.map (eval pf)
  | [] => rfl
  | k :: ks => by rw [evalL, evalL_eq_map pf ks, List.map_cons]

theorem mem_evalL (pf : Nat) : ∀ (ks : List Sp) (x : Str), x ∈ evalL pf ks → ∃ k ∈ ks, x = eval pf k := by
  intro ks x h
  obtain ⟨k, hk, e⟩ := List.mem_map.mp (evalL_eq_map pf ks ▸ h)
  exact ⟨k, hk, e.symm⟩

mutual
/-- **content**: up to the engine's own characters the value of a tree is the concatenation of its literal pieces, and
nothing of the class `q` is deleted as long as every string entering a join is `FrontClean` -/
theorem eval_edit {q : Nat → Bool} (hq : Content q) (pf : Nat) : ∀ (t : Sp), FC q pf t →
    Edit (q · = false) Ins (lits t).flatten (eval pf t)
  | .lit s, _ => by
    rw [lits, List.flatten_singleton]
    exact .refl s
  | .auto, _ => .ins .fe (.ins .fa (.ins .fa .nil))
  | .arr ks, hf => by
    have ih := evalL_edit hq pf ks hf.1
    rw [← List.flatten_filter_not_isEmpty (L := evalL pf ks)] at ih
    rw [eval]
    split
    · rename_i he
      rwa [List.isEmpty_iff.mp he] at ih
    · exact ih.trans (joinArray_edit hq pf _ fun x hx => hf.2 x (List.mem_filter.mp hx).1)
  | .nodes ks, hf => (evalL_edit hq pf ks hf).trans (joinSp_edit .sp _)
theorem evalL_edit {q : Nat → Bool} (hq : Content q) (pf : Nat) : ∀ (ks : List Sp), FCL q pf ks →
    Edit (q · = false) Ins (litsL ks).flatten (evalL pf ks).flatten
  | [], _ => .nil
  | k :: ks, hf => by
    rw [litsL, evalL, List.flatten_append, List.flatten_cons]
    exact (eval_edit hq pf k hf.1).append (evalL_edit hq pf ks hf.2)
end

theorem evalL_filter (q : Nat → Bool) (hq : Content q) (pf : Nat) : ∀ (ks : List Sp), WFL ks → FCL q pf ks →
    (evalL pf ks).flatten.filter q = (litsL ks).flatten.filter q :=
  fun ks _ hf => hq.filter_eq (evalL_edit hq pf ks hf)

/-- the same through the clean-up of `speak_rules` -/
theorem speak_edit {q : Nat → Bool} (hq : Content q) (pf : Nat) (t : Sp) (hf : FC q pf t) :
    Edit (q · = false) Ins (lits t).flatten (speak pf t) :=
  (eval_edit hq pf t hf).trans ((finalize_edit hq _).mono (fun _ h => h) fun _ h => .pause (.inr (.inr h)))

theorem speak_filter (q : Nat → Bool) (hq : Content q) (pf : Nat) (t : Sp) (hf : FC q pf t) :
    (speak pf t).filter q = (lits t).flatten.filter q := hq.filter_eq (speak_edit hq pf t hf)

mutual
/-- with the empty content class the hypothesis of `eval_edit` holds of every tree -/
theorem FC_none (pf : Nat) : ∀ t : Sp, FC (fun _ => false) pf t
  | .lit _ => trivial
  | .auto => trivial
  | .arr ks => ⟨FCL_none pf ks, fun x _ => frontClean_none x⟩
  | .nodes ks => FCL_none pf ks
theorem FCL_none (pf : Nat) : ∀ ks : List Sp, FCL (fun _ => false) pf ks
  | [] => trivial
  | k :: ks => ⟨FC_none pf k, FCL_none pf ks⟩
end

theorem eval_mem (pf : Nat) (t : Sp) {c : Nat} (hc : c ∈ eval pf t) : (∃ s ∈ lits t, c ∈ s) ∨ Ins c :=
  ((eval_edit content_none pf t (FC_none pf t)).mem hc).imp_left List.mem_flatten.mp

theorem eval_auto (pf : Nat) : ∀ t : Sp, t.isAuto = true → eval pf t = autoStr
  | .auto, _ => rfl

mutual
theorem eval_noFA (pf : Nat) : ∀ (t : Sp), WF t → t.isAuto = false → FA ∉ eval pf t
  | .lit _, h, _ => h
  | .arr ks, h, _ => by
    rw [eval]
    split
    · exact List.not_mem_nil
    · exact joinArray_noFA pf _ fun x hx => evalL_autoOK pf ks h x (List.mem_filter.mp hx).1
  | .nodes ks, h, _ => fun hm => by
    rcases joinSp_mem hm with ⟨x, hx, hc⟩ | e
    · exact evalL_noAuto pf ks h.1 h.2 x hx hc
    · exact absurd e (by decide)
theorem evalL_autoOK (pf : Nat) : ∀ (ks : List Sp), WFL ks → ∀ x ∈ evalL pf ks, AutoOK x
  | [], _, x, hx => nomatch hx
  | k :: ks, h, x, hx => by
    rcases List.mem_cons.mp hx with rfl | hx
    · cases hk : k.isAuto
      · exact .inl (eval_noFA pf k h.1 hk)
      · exact .inr (eval_auto pf k hk)
    · exact evalL_autoOK pf ks h.2 x hx
theorem evalL_noAuto (pf : Nat) : ∀ (ks : List Sp), WFL ks → ks.all (fun k => !k.isAuto) = true →
    ∀ x ∈ evalL pf ks, FA ∉ x
  | [], _, _ => fun _ hx => nomatch hx
  | k :: ks, h, ha => by
    simp only [List.all_cons, Bool.and_eq_true, Bool.not_eq_true'] at ha
    intro x hx
    rcases List.mem_cons.mp hx with rfl | hx
    · exact eval_noFA pf k h.1 ha.1
    · exact evalL_noAuto pf ks h.2 ha.2 x hx
end

end MC.Speech
