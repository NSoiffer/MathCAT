import MC.Model.Clean
import MC.Props.IteInd
/-!
# What the clean-up skeleton builds

`clean` is a deep tree of tests, but what it hands back is one of a dozen constructions.  `cleanLeaf_shape` (tokens) and
`clean_shape` (containers) list them once, each with side conditions that hold whenever it arises (not all that do: the lists
are an over-approximation, which is all the properties need); the properties of the
clean-up (C01 visible text, C02 child counts, C09 author ids) are then checked construction by construction instead of
walking the tests again: `clean_elem` is the case split they all start from, and `Kept` with `Kept.holds` is the recursion over
the tree, done once for any relation between a node and what `clean` makes of it.  Where a construction holds fewer children than
were cleaned (`merge_whitespace`, a blank script of an `msubsup`), the list it holds is `Thinned`: the cleaned children in
order, without some that are empty elements.
-/
namespace MC.Clean
open MC.Xml

abbrev Attrs := List (Str × Str)

/-- `mphantom` and the alignment marks: removed whatever they hold -/
def hidden (n : Str) : Bool := n = s "mphantom" || n = s "malignmark" || n = s "maligngroup"

/-- the names under which the token arms return a token -/
def tokNames : List Str := [s "mn", s "mi", s "mo", s "mtext"]

/-- the documented rewrites of a token's text: dashes, `...`, `::`, and blank text (one no-break space) -/
inductive Rewrites (t : Str) : Str → Prop
  | same : Rewrites t t
  | dash {d} : dash t = some d → Rewrites t d
  | blank : allWs t = true → Rewrites t nbsp
  | dots : t = [46, 46, 46] → Rewrites t [0x2026]
  | colons : t = [58, 58] → Rewrites t [0x2237]

/-- every way `cleanLeaf` answers for the leaf `n` with text `t` -/
inductive LeafShape (prc : Bool) (n : Str) (attrs : Attrs) (t : Str) : Option Node → Prop
  | gone : prc = false → t = [] → LeafShape prc n attrs t none
  | placeholder : t = [] → LeafShape prc n attrs t (some (makeEmpty attrs))
  /-- `-5` in an `mn` becomes a row of `-` and `5` -/
  | signed {c r} : n = s "mn" → t = c :: r → (c = 45 ∨ c = 0x2212) →
      LeafShape prc n attrs t (some (.elem (s "mrow") (attrs ++ [(s "data-changed", s "added")]) [leaf (s "mo") [] [45], leaf (s "mn") [] r]))
  | token {n' t'} : n ∈ tokNames → n' ∈ tokNames → Rewrites t t' → LeafShape prc n attrs t (some (leaf n' attrs t'))
  | space : n = s "mspace" → LeafShape prc n attrs t (some (leaf (s "mtext") attrs nbsp))
  | other : n ∉ tokNames → n ≠ s "mspace" → LeafShape prc n attrs t (some (.elem n attrs (if t.isEmpty then [] else [.text t])))

theorem tokNames_leaf : ∀ {n : Str}, n ∈ tokNames → isLeafName n = true := by decide +kernel

theorem mem_mn : s "mn" ∈ tokNames := List.mem_cons_self
theorem mem_mi : s "mi" ∈ tokNames := .tail _ List.mem_cons_self
theorem mem_mo : s "mo" ∈ tokNames := .tail _ (.tail _ List.mem_cons_self)
theorem mem_mtext : s "mtext" ∈ tokNames := .tail _ (.tail _ (.tail _ List.mem_cons_self))

/-- what is put in place of something removed: the placeholder under a parent with a fixed number of children, else nothing -/
theorem LeafShape.removed {prc n attrs t} (h : t = []) : LeafShape prc n attrs t (if prc then some (makeEmpty attrs) else none) :=
  ite_ind (fun _ => .placeholder h) fun hp => .gone (eq_false_of_ne_true hp) h

theorem cleanLeaf_shape (prc : Bool) (n : Str) (attrs : Attrs) (t : Str) : LeafShape prc n attrs t (cleanLeaf prc n attrs t) := by
  unfold cleanLeaf
  -- one goal per arm: empty text, `mn`, `mi`, `mtext`, `mo`, and that the remaining names are no token names
  refine ite_ind (fun h0 => ?_) fun _ => ite_ind (fun hmn => ?_) fun hmn => ite_ind (fun hmi => ?_) fun hmi =>
    ite_ind (fun hmt => ?_) fun hmt => ite_ind (fun hmo => ?_) fun hmo => ite_ind .space fun hsp => .other ?_ hsp
  · simp only [Bool.and_eq_true, List.isEmpty_iff] at h0
    exact .removed h0.2
  · subst hmn
    cases t with
    | nil => exact .token mem_mn mem_mn .same
    | cons c r =>
      refine ite_ind (fun hc => ?_) fun _ => .token mem_mn mem_mn .same
      simp only [Bool.and_eq_true, Bool.or_eq_true, decide_eq_true_eq] at hc
      exact .signed rfl rfl hc.1
  · subst hmi
    cases hd : dash t with
    | some d => exact .token mem_mi mem_mi (.dash hd)
    | none => exact ite_ind (fun _ => .token mem_mi mem_mo .same) fun _ => ite_ind (fun h3 => .token mem_mi mem_mi (.dots h3)) fun _ => .token mem_mi mem_mi .same
  · subst hmt
    refine ite_ind (fun hw => .token mem_mtext mem_mtext (.blank hw)) fun _ => ?_
    cases hd : dash t with
    | some d => exact .token mem_mtext mem_mtext (.dash hd)
    | none => exact ite_ind (fun _ => .token mem_mtext mem_mo .same) fun _ => .token mem_mtext mem_mtext .same
  · subst hmo
    -- blank, `...`, `::`, one of `… ⋯ ∞` (an `mi`); what is left is the `match` on a single currency sign
    refine ite_ind (fun hw => .token mem_mo mem_mtext (.blank hw)) fun _ => ite_ind (fun h3 => .token mem_mo mem_mo (.dots h3)) fun _ =>
      ite_ind (fun h2 => .token mem_mo mem_mo (.colons h2)) fun _ => ite_ind (fun _ => .token mem_mo mem_mi .same) fun _ => ?_
    split
    · exact ite_ind (fun _ => .token mem_mo mem_mi .same) fun _ => .token mem_mo mem_mo .same
    · exact .token mem_mo mem_mo .same
  · simp only [tokNames, List.mem_cons, List.mem_nil_iff, or_false]
    rintro (h | h | h | h)
    · exact hmn h
    · exact hmi h
    · exact hmo h
    · exact hmt h

/-! ### containers -/

theorem cleanL_length (prc : Bool) (pn : Str) (ks : List Node) : (cleanL prc pn ks).length ≤ ks.length := by
  induction ks with
  | nil => exact Nat.le_refl 0
  | cons k ks ih =>
    rw [cleanL, List.length_append, List.length_cons]
    cases clean prc pn k
    · exact Nat.le_succ_of_le (by simpa using ih)
    · simpa [Nat.add_comm] using Nat.succ_le_succ ih

/-- `a` is `b` without some members that are empty elements (blank tokens, empty rows: they show nothing) -/
inductive Thinned : List Node → List Node → Prop
  | nil : Thinned [] []
  | keep (x : Node) {a b : List Node} : Thinned a b → Thinned (x :: a) (x :: b)
  | drop {x : Node} {a b : List Node} : isEmptyElement x = true → Thinned a b → Thinned a (x :: b)

theorem Thinned.refl : ∀ l : List Node, Thinned l l
  | [] => .nil
  | x :: l => .keep x (refl l)

theorem Thinned.of_all : ∀ {l : List Node}, l.all isEmptyElement = true → Thinned [] l
  | [], _ => .nil
  | x :: l, h => by
    rw [List.all_cons, Bool.and_eq_true] at h
    exact .drop h.1 (of_all h.2)

theorem Thinned.sublist {a b : List Node} (h : Thinned a b) : a.Sublist b := by
  induction h with
  | nil => exact .slnil
  | keep x _ ih => exact .cons_cons x ih
  | drop _ _ ih => exact .cons _ ih

theorem Thinned.insert {x : Node} (hx : isEmptyElement x = true) : ∀ {u v r : List Node}, Thinned r (u ++ v) → Thinned r (u ++ x :: v)
  | [], _, _, h => .drop hx h
  | y :: u, v, r, h => by
    cases h with
    | keep _ h => exact .keep y (insert hx h)
    | drop hy h => exact .drop hy (insert hx h)

theorem isWsMtext_empty {k : Node} (h : isWsMtext k = true) : isEmptyElement k = true := by
  unfold isWsMtext at h
  split at h
  · simp only [Bool.and_eq_true, decide_eq_true_eq] at h
    rw [h.1, h.2]; rfl
  · cases h

theorem isBlankMtext_empty {k : Node} (h : isBlankMtext k = true) : isEmptyElement k = true := by
  cases k with
  | text t => cases h
  | elem n a kids =>
    simp only [isBlankMtext, Bool.and_eq_true, decide_eq_true_eq] at h
    rw [isEmptyElement, h.1, h.2]; rfl

/-- `merge_whitespace` drops a white-space `mtext` that follows another one, stands before another child, or ends a row of several -/
theorem mergeWsLoop_thinned (acc : List Node) (prev : Node) (b : Bool) (rest : List Node) (hb : b = true → isWsMtext prev = true) :
    Thinned (mergeWsLoop acc prev b rest) (acc ++ prev :: rest) := by
  induction rest generalizing acc prev b with
  | nil =>
    unfold mergeWsLoop
    split
    · -- `prev` is white space at the end of a row of several: dropped (`simpa` writes `acc` as `acc ++ []`)
      rename_i h
      simp only [Bool.and_eq_true] at h
      exact .insert (isWsMtext_empty (hb h.2)) (by simpa using Thinned.refl acc)
    · exact .refl _
  | cons c rest ih =>
    unfold mergeWsLoop
    split
    · -- `c` is white space behind the white space `prev`: dropped (both `simpa`s only re-associate
      -- `acc ++ prev :: c :: rest` as `(acc ++ [prev]) ++ c :: rest`)
      rename_i h
      simp only [Bool.and_eq_true] at h
      simpa using Thinned.insert (isWsMtext_empty h.1) (u := acc ++ [prev]) (by simpa using ih acc prev b hb)
    · split
      · -- `prev` is white space in front of the child `c`: dropped
        rename_i h
        exact .insert (isWsMtext_empty (hb h)) (ih acc c false nofun)
      · -- `prev` is kept (`simpa` re-associates `(acc ++ [prev]) ++ c :: rest`)
        simpa using ih (acc ++ [prev]) c (isWsMtext c) id

theorem mergeWs_thinned (cs : List Node) : Thinned (mergeWs cs) cs := by
  cases cs with
  | nil => exact .nil
  | cons k ks => exact mergeWsLoop_thinned [] k (isWsMtext k) ks id

theorem mergeWs_sublist (cs : List Node) : (mergeWs cs).Sublist cs := (mergeWs_thinned cs).sublist

/-- Every way `clean` answers for a container `n` that is not hidden, given the attributes `a` it hands on and its cleaned
children `cs` (a container without children counts as holding the missing-content placeholder).  `n` is the name as written:
an `mstyle` / `mpadded` with several children is finished like an `mrow` (`row`), which is why `rowFinish_shape` holds for any `n`. -/
inductive Built (prc : Bool) (n : Str) (a : Attrs) (cs : List Node) : Option Node → Prop
  | gone : prc = false → cs.all isEmptyElement = true → Built prc n a cs none
  | placeholder : cs.all isEmptyElement = true → Built prc n a cs (some (makeEmpty a))
  | noneEl : cs.all isEmptyElement = true → Built prc n a cs (some (.elem (s "none") a []))
  | missing : cs = [] → Built prc n a cs (some createEmpty)
  | bare : cs.all isEmptyElement = true → emptyEls.contains n = true → Built prc n a cs (some (.elem n a []))
  /-- the first child stands for the element when the others are empty (scripts all blank) -/
  | first {k ks} : cs = k :: ks → ks.all isEmptyElement = true → Built prc n a cs (some k)
  | lifted {k} : cs = [k] → Built prc n a cs (some (lift a k))
  | row {cs'} : Thinned cs' cs → Built prc n a cs (some (.elem (s "mrow") a cs'))
  | wrapped {cs'} : Thinned cs' cs → oneChildEls.contains n = true → Built prc n a cs (some (.elem n a (assureOne cs')))
  /-- an `msubsup` that loses one blank script -/
  | script {n' cs'} : n = s "msubsup" → n' ∈ [s "msub", s "msup"] → Thinned cs' cs → cs'.length + 1 = cs.length →
      Built prc n a cs (some (.elem n' a cs'))
  | same : oneChildEls.contains n = false → Built prc n a cs (some (.elem n a cs))

/-- the names under which `Built` makes an element of its own: containers, not hidden, read in document order -/
theorem plain_names : ∀ m ∈ [s "mrow", s "msub", s "msup"], isLeafName m = false ∧ hidden m = false ∧ m ≠ s "mmultiscripts" := by
  decide +kernel

/-- what stands for a container whose children are all empty: `x` under a parent with a fixed number of children, else nothing -/
theorem Built.orGone {prc n a cs x} (h : cs.all isEmptyElement = true) (hx : Built prc n a cs (some x)) :
    Built prc n a cs (if prc then some x else none) :=
  ite_ind (fun _ => hx) fun hp => .gone (eq_false_of_ne_true hp) h

theorem Built.removed {prc n a cs} (h : cs.all isEmptyElement = true) : Built prc n a cs (if prc then some (makeEmpty a) else none) :=
  .orGone h (.placeholder h)

theorem Built.emptied {prc n a cs} (pn : Str) (h : cs.all isEmptyElement = true) :
    Built prc n a cs (if pn = s "mmultiscripts" then some (.elem (s "none") a []) else if prc then some (makeEmpty a) else none) :=
  ite_ind (fun _ => .noneEl h) fun _ => .removed h

theorem rowFinish_shape (prc : Bool) (pn n : Str) (a : Attrs) (cs : List Node) : Built prc n a cs (rowFinish prc pn a cs) := by
  unfold rowFinish
  refine ite_ind (fun h => ?_) fun _ => ?_
  · simp only [Bool.and_eq_true, List.isEmpty_iff] at h
    exact .emptied pn (by rw [h.1]; rfl)
  · split
    · exact ite_ind (fun _ => .lifted rfl) fun _ => .row (mergeWs_thinned _)
    · exact .row (mergeWs_thinned _)

/-- `clean_msubsup`: a blank script goes, and the base alone is left when both are blank -/
theorem cleanMsubsup_shape (prc : Bool) (a : Attrs) (cs : List Node) : Built prc (s "msubsup") a cs (some (cleanMsubsup a cs)) := by
  have hs : Built prc (s "msubsup") a cs (some (.elem (s "msubsup") a cs)) := .same (by decide +kernel)
  unfold cleanMsubsup
  split
  · rename_i b sub sup
    cases hsub : isBlankMtext sub <;> cases hsup : isBlankMtext sup
    · exact hs
    · exact .script rfl List.mem_cons_self (.keep b (.keep sub (.drop (isBlankMtext_empty hsup) .nil))) rfl
    · exact .script rfl (.tail _ List.mem_cons_self) (.keep b (.drop (isBlankMtext_empty hsub) (.keep sup .nil))) rfl
    · exact .first rfl (by simp [isBlankMtext_empty hsub, isBlankMtext_empty hsup])
  · exact hs

theorem otherFinish_shape (prc : Bool) (n : Str) (a : Attrs) (cs : List Node) : Built prc n a cs (otherFinish prc n a cs) := by
  unfold otherFinish
  refine ite_ind (fun h1 => .wrapped (mergeWs_thinned cs) h1) fun h1 => ?_
  have hsame : Built prc n a cs (some (.elem n a cs)) := .same (by simpa using h1)
  -- only a script element is looked at further
  refine ite_ind (fun _ => ?_) fun _ => hsame
  -- three goals: no child left, all children empty, an `msubsup`
  refine ite_ind (fun he => ?_) fun hne => ite_ind (fun hall => ?_) fun _ => ite_ind (fun hn => ?_) fun _ => hsame
  · simp only [List.isEmpty_iff] at he
    exact .orGone (by rw [he]; rfl) (.missing he)
  · cases cs with
    | nil => exact absurd rfl hne
    | cons k ks => exact .orGone hall (.first rfl (Bool.and_eq_true_iff.mp (List.all_cons ▸ hall)).2)
  · subst hn
    exact cleanMsubsup_shape prc a cs

theorem clean_leaf (prc : Bool) (pn : Str) {n : Str} (attrs : Attrs) (kids : List Node) (hl : isLeafName n = true) :
    clean prc pn (.elem n attrs kids) = cleanLeaf prc n attrs (textOf kids) := by
  rw [clean, if_pos hl]

theorem clean_hidden (prc : Bool) (pn : Str) {n : Str} (attrs : Attrs) (kids : List Node) (hh : hidden n = true) :
    clean prc pn (.elem n attrs kids) = if prc then some (makeEmpty attrs) else none := by
  have names : ∀ m ∈ [s "mphantom", s "malignmark", s "maligngroup"], isLeafName m = false ∧ m ≠ s "mrow" := by decide +kernel
  obtain ⟨hl, hm⟩ := names n (by simpa [hidden, or_assoc] using hh)
  rw [clean]
  -- not a token, not an `mrow`: the third test is the one for the hidden elements
  refine ite_ind (P := (· = _)) (fun h => absurd h (by simp [hl])) fun _ => ite_ind (P := (· = _)) (fun he => ?_) fun _ =>
    ite_ind (P := (· = _)) (fun _ => rfl) fun h => absurd hh h
  simp only [Bool.and_eq_true, decide_eq_true_eq] at he
  exact absurd he.1.2 hm

/-- the children a container is finished with: its cleaned children `cs`, or the missing-content placeholder if it had none -/
def orMissing (kids cs : List Node) : List Node := if kids.isEmpty then [createEmpty] else cs

theorem orMissing_empty {kids : List Node} (cs : List Node) (h : kids.isEmpty = true) : orMissing kids cs = [createEmpty] := if_pos h
theorem orMissing_nonempty {kids : List Node} (cs : List Node) (h : ¬ kids.isEmpty = true) : orMissing kids cs = cs := if_neg h

/-- What `clean` answers for a container: a construction of `Built` over the children it is finished with.  `q` is the parent name
under which the children are cleaned (`n`, or `mrow` for an `mstyle` / `mpadded` with several children) and `a` the attributes handed
on (with `data-changed` in that same case); the properties hold for every `q`, and of `a` they need at most its `id`. -/
def Shaped (prc : Bool) (n : Str) (attrs : Attrs) (kids : List Node) (o : Option Node) : Prop :=
  ∃ q a, (a = attrs ∨ a = attrs ++ [(s "data-changed", s "added")]) ∧
    Built prc n a (orMissing kids (cleanL (fixedArity.contains n) q kids)) o

theorem clean_shape (prc : Bool) (pn n : Str) (attrs : Attrs) (kids : List Node) (hl : isLeafName n = false) (hh : hidden n = false) :
    Shaped prc n attrs kids (clean prc pn (.elem n attrs kids)) := by
  have hone : [createEmpty].all isEmptyElement = true := by decide +kernel
  have free : ∀ m ∈ [s "mstyle", s "mpadded", s "mrow"], fixedArity.contains m = false := by decide +kernel
  -- without children the element is finished over the placeholder, else over its cleaned children
  have empty : ∀ {o}, kids.isEmpty = true → Built prc n attrs [createEmpty] o → Shaped prc n attrs kids o :=
    fun hk hb => ⟨n, attrs, .inl rfl, by rwa [orMissing_empty _ hk]⟩
  have full : ∀ {o} q a, ¬ kids.isEmpty = true → (a = attrs ∨ a = attrs ++ [(s "data-changed", s "added")]) →
      Built prc n a (cleanL (fixedArity.contains n) q kids) o → Shaped prc n attrs kids o :=
    fun q a hk ha hb => ⟨q, a, ha, by rwa [orMissing_nonempty _ hk]⟩
  -- a single child under a lifting parent: what is left of it is lifted, or nothing is left
  have liftFirst : ∀ q, kids.length = 1 → Built prc n attrs (cleanL false q kids)
      (match cleanL false q kids with | new :: _ => some (lift attrs new) | [] => if prc then some (makeEmpty attrs) else none) := by
    intro q h1
    have hlen := cleanL_length false q kids
    cases hc : cleanL false q kids with
    | nil => exact .removed rfl
    | cons new rest =>
      cases rest with
      | nil => exact .lifted rfl
      | cons x xs => rw [hc, h1] at hlen; simp at hlen
  rw [clean]
  -- not a token; an empty `mrow` without intent; not hidden
  refine ite_ind (fun h => absurd h (by simp [hl])) fun _ => ite_ind (fun he => ?_) fun _ =>
    ite_ind (fun h => absurd h (by simpa [hidden] using hh)) fun _ => ?_
  · simp only [Bool.and_eq_true] at he
    exact empty he.1.1.1 (.emptied pn hone)
  -- `mstyle` / `mpadded`, `mrow`, any other container
  refine ite_ind (fun hs => ?_) fun _ => ite_ind (fun hr => ?_) fun _ => ?_
  · have hf : fixedArity.contains n = false := by
      simp only [Bool.or_eq_true, decide_eq_true_eq] at hs
      exact free n (by simp only [List.mem_cons]; exact hs.elim .inl (.inr ∘ .inl))
    refine ite_ind (fun hk => empty hk (.lifted rfl)) fun hk => ite_ind (fun h1 => ?_) fun _ => ?_
    · exact full n attrs hk (.inl rfl) (hf ▸ liftFirst n h1)
    · exact full (s "mrow") _ hk (.inr rfl) (hf ▸ rowFinish_shape prc pn n _ _)
  · have hf : fixedArity.contains n = false := free n (hr ▸ .tail _ (.tail _ List.mem_cons_self))
    refine ite_ind (fun hk => empty hk (hr ▸ .row (.refl _))) fun hk => ite_ind (fun h1 => ?_) fun _ => ?_
    · simp only [Bool.and_eq_true, decide_eq_true_eq] at h1
      exact full n attrs hk (.inl rfl) (hf ▸ liftFirst n h1.1)
    · exact full n attrs hk (.inl rfl) (hf ▸ rowFinish_shape prc pn n _ _)
  · refine ite_ind (fun hk => empty hk ?_) fun hk => full n attrs hk (.inl rfl) (otherFinish_shape prc n attrs _)
    exact ite_ind (fun he => .bare hone he) fun _ => otherFinish_shape prc n attrs _

/-- the case split every property of `clean` starts from: token, hidden element, or a construction of `Built` -/
theorem clean_elem {motive : Option Node → Prop} (prc : Bool) (pn n : Str) (attrs : Attrs) (kids : List Node)
    (leaf : isLeafName n = true → ∀ o, LeafShape prc n attrs (textOf kids) o → motive o)
    (hid : isLeafName n = false → hidden n = true → (prc = false → motive none) ∧ motive (some (makeEmpty attrs)))
    (built : isLeafName n = false → hidden n = false → ∀ q a o, (a = attrs ∨ a = attrs ++ [(s "data-changed", s "added")]) →
      Built prc n a (orMissing kids (cleanL (fixedArity.contains n) q kids)) o → motive o) :
    motive (clean prc pn (.elem n attrs kids)) := by
  cases hl : isLeafName n with
  | true =>
    rw [clean_leaf prc pn attrs kids hl]
    exact leaf hl _ (cleanLeaf_shape prc n attrs _)
  | false =>
    cases hh : hidden n with
    | true =>
      rw [clean_hidden prc pn attrs kids hh]
      exact ite_ind (fun _ => (hid hl hh).2) fun hp => (hid hl hh).1 (eq_false_of_ne_true hp)
    | false =>
      obtain ⟨q, a, ha, hb⟩ := clean_shape prc pn n attrs kids hl hh
      exact built hl hh q a _ ha hb

/-- What a relation `P` between a node and what `clean` makes of it has to satisfy to hold of every node (`PL`: the same between the
children and the cleaned children): it holds of text, of each answer for a token, of the two answers for a hidden element, of every
construction of `Built` over related children, and the children loop keeps it, whether it drops the child or not. -/
structure Kept (P : Node → Option Node → Prop) (PL : List Node → List Node → Prop) : Prop where
  text : ∀ t, P (.text t) (some (.text t))
  leaf : ∀ {prc n attrs kids o}, isLeafName n = true → LeafShape prc n attrs (textOf kids) o → P (.elem n attrs kids) o
  hid : ∀ {n attrs kids}, isLeafName n = false → hidden n = true →
    P (.elem n attrs kids) none ∧ P (.elem n attrs kids) (some (makeEmpty attrs))
  built : ∀ {prc n attrs kids q a o}, isLeafName n = false → hidden n = false → (a = attrs ∨ a = attrs ++ [(s "data-changed", s "added")]) →
    PL kids (orMissing kids (cleanL (fixedArity.contains n) q kids)) →
    Built prc n a (orMissing kids (cleanL (fixedArity.contains n) q kids)) o → P (.elem n attrs kids) o
  missing : PL [] [createEmpty]
  nil : PL [] []
  drop : ∀ {k ks cs}, P k none → PL ks cs → PL (k :: ks) cs
  keep : ∀ {k ks r cs}, P k (some r) → PL ks cs → PL (k :: ks) (r :: cs)

mutual
theorem Kept.holds {P PL} (h : Kept P PL) (prc : Bool) (pn : Str) : (t : Node) → P t (clean prc pn t)
  | .text t => by rw [clean]; exact h.text t
  | .elem n attrs kids => by
    have hc : ∀ q, PL kids (orMissing kids (cleanL (fixedArity.contains n) q kids)) := fun q => by
      by_cases hk : kids.isEmpty = true
      · rw [orMissing_empty _ hk, List.isEmpty_iff.mp hk]; exact h.missing
      · rw [orMissing_nonempty _ hk]; exact h.holdsL _ q kids
    exact clean_elem (motive := P (.elem n attrs kids)) prc pn n attrs kids (fun hl _ => h.leaf hl)
      (fun hl hh => ⟨fun _ => (h.hid hl hh).1, (h.hid hl hh).2⟩) fun hl hh q _ _ ha => h.built hl hh ha (hc q)
theorem Kept.holdsL {P PL} (h : Kept P PL) (prc : Bool) (pn : Str) : (ts : List Node) → PL ts (cleanL prc pn ts)
  | [] => by rw [cleanL]; exact h.nil
  | k :: ks => by
    have hk := h.holds prc pn k
    rw [cleanL]
    cases hc : clean prc pn k with
    | none => exact h.drop (hc ▸ hk) (h.holdsL prc pn ks)
    | some r => exact h.keep (hc ▸ hk) (h.holdsL prc pn ks)
end

end MC.Clean
