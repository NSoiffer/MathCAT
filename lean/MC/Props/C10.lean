import MC.Model.Loader
/-!
# C10 — results depend only on the current expression and preferences: the caches are transparent

Setting: the files do not change and all of them load (`Sane`). Then for EVERY history of calls under arbitrary
preference assignments and `CheckRuleFiles` values, the tables a getter computes from are the ones a fresh session builds.
-/
namespace MC.Props.C10
open MC.Loader

/-- every file loads, and a head file comes first in what it includes -/
structure Sane (fs : FS) : Prop where
  good : ∀ p, (fs.incl p).all fs.good = true
  head : ∀ p, ∃ rest, fs.incl p = p :: rest

/-- a cache is coherent with the file system: empty, or built from the current contents of a head file and its includes -/
def Coh (c : Cell) (fs : FS) : Prop :=
  c = Cell.empty ∨ ∃ p, c.files.map (·.1) = fs.incl p ∧ c.data = contentOf fs (fs.incl p)

section
variable {k : Kind} {c : Cell} {pref : Path} {ignore : Bool} {fs : FS}

theorem upToDate_head (h : upToDate c pref ignore fs = true) : ∃ t rest, c.files = (pref, t) :: rest := by
  unfold upToDate at h
  split at h
  · cases h
  · rename_i p t rest hf
    simp only [Bool.and_eq_true, beq_iff_eq] at h
    exact ⟨t, rest, by rw [hf, h.1]⟩

theorem needs_of_not_upToDate (k : Kind) (h : upToDate c pref ignore fs = false) : needsLoad k c pref ignore fs = true := by
  cases k <;> simp [needsLoad, h]

theorem kept_head (h : needsLoad k c pref ignore fs = false) : ∃ t rest, c.files = (pref, t) :: rest := by
  cases hu : upToDate c pref ignore fs with
  | true => exact upToDate_head hu
  | false => rw [needs_of_not_upToDate k hu] at h; cases h

theorem refresh_kept (hn : needsLoad k c pref ignore fs = false) : refresh k c pref ignore fs = (c, true) := by
  simp [refresh, hn]

theorem refresh_loaded (hn : needsLoad k c pref ignore fs = true) (hg : (fs.incl pref).all fs.good = true) :
    refresh k c pref ignore fs = (⟨timesOf fs (fs.incl pref), contentOf fs (fs.incl pref)⟩, true) := by
  simp only [refresh, hn, hg, if_true]

theorem refresh_failed (hn : needsLoad k c pref ignore fs = true) (hb : (fs.incl pref).all fs.good = false) :
    refresh k c pref ignore fs = (Cell.empty, false) := by
  simp [refresh, hn, hb]

end

/-- a refresh that succeeded and left the table a fresh load of the preferred file builds -/
def Fresh (fs : FS) (pref : Path) (r : Cell × Bool) : Prop := r.2 = true ∧ r.1.data = contentOf fs (fs.incl pref)

theorem refresh_fresh (k : Kind) (c : Cell) (pref : Path) (ignore : Bool) (fs : FS) (hs : Sane fs)
    (h : Coh c fs ∨ needsLoad k c pref ignore fs = true) :
    Fresh fs pref (refresh k c pref ignore fs) ∧ Coh (refresh k c pref ignore fs).1 fs := by
  cases hn : needsLoad k c pref ignore fs with
  | true =>
    rw [refresh_loaded hn (hs.good pref)]
    exact ⟨⟨rfl, rfl⟩, .inr ⟨pref, by simp [timesOf, Function.comp_def], rfl⟩⟩
  | false =>
    -- kept: the recorded head file is the preferred one, so the table was built from it
    have hc := h.resolve_right (by simp [hn])
    rw [refresh_kept hn]
    refine ⟨⟨rfl, ?_⟩, hc⟩
    obtain ⟨t, rest, hf⟩ := kept_head hn
    rcases hc with he | ⟨p, hp, hd⟩
    · rw [he] at hf; cases hf
    · obtain ⟨r2, hi⟩ := hs.head p
      rw [hf, hi] at hp
      rw [hd, ← (List.cons.inj hp).1]

def CohAll (s : Caches) (fs : FS) : Prop := Coh s.rules fs ∧ Coh s.uniShort fs ∧ Coh s.defs fs ∧ Coh s.uniFull fs

theorem coh_empty (fs : FS) : CohAll Caches.empty fs := ⟨Or.inl rfl, Or.inl rfl, Or.inl rfl, Or.inl rfl⟩

def freshView (p : Pref) (full : Bool) (fs : FS) : List (List (Path × Nat)) :=
  [contentOf fs (fs.incl p.rules), contentOf fs (fs.incl p.uniShort), contentOf fs (fs.incl p.defs)] ++
    (if full then [contentOf fs (fs.incl p.uniFull)] else [])

theorem call_fresh {s : Caches} {p : Pref} {ignore full : Bool} {fs : FS} (r : Fresh fs p.rules (refresh .rules s.rules p.rules ignore fs))
    (u : Fresh fs p.uniShort (refresh .uniShort s.uniShort p.uniShort ignore fs)) (d : Fresh fs p.defs (refresh .defs s.defs p.defs ignore fs))
    (f : Fresh fs p.uniFull (refresh .uniFull s.uniFull p.uniFull ignore fs)) :
    (call s p ignore full fs).2 = true ∧ view (call s p ignore full fs).1 full = freshView p full fs := by
  unfold call
  simp only [r.1, u.1, d.1, Bool.not_true, Bool.false_eq_true, if_false]
  cases full
  · simp [view, freshView, r.2, u.2, d.2]
  · simp [view, freshView, r.2, u.2, d.2, f.1, f.2]

/-- **one call**: from coherent caches a call succeeds, computes from exactly the fresh tables, and leaves coherent caches -/
theorem call_spec (s : Caches) (p : Pref) (ignore full : Bool) (fs : FS) (hs : Sane fs) (hc : CohAll s fs) :
    (call s p ignore full fs).2 = true ∧ view (call s p ignore full fs).1 full = freshView p full fs ∧
    CohAll (call s p ignore full fs).1 fs := by
  obtain ⟨h1, h2, h3, h4⟩ := hc
  have r := refresh_fresh .rules s.rules p.rules ignore fs hs (.inl h1)
  have u := refresh_fresh .uniShort s.uniShort p.uniShort ignore fs hs (.inl h2)
  have d := refresh_fresh .defs s.defs p.defs ignore fs hs (.inl h3)
  have f := refresh_fresh .uniFull s.uniFull p.uniFull ignore fs hs (.inl h4)
  refine and_assoc.1 ⟨call_fresh r.1 u.1 d.1 f.1, ?_⟩
  unfold call
  simp only [r.1.1, u.1.1, d.1.1, Bool.not_true, Bool.false_eq_true, if_false]
  cases full
  · exact ⟨r.2, u.2, d.2, h4⟩
  · exact ⟨r.2, u.2, d.2, f.2⟩

theorem run_coherent (fs : FS) (hs : Sane fs) : ∀ (hist : List (Pref × Bool × Bool)) (s : Caches), CohAll s fs → CohAll (run fs hist s) fs
  | [], _, h => h
  | (p, ig, full) :: rest, s, h => run_coherent fs hs rest _ (call_spec s p ig full fs hs h).2.2

/-- **C10, cache transparency**: after ANY history of calls (any preference assignments, i.e. languages, styles, braille codes; any
`CheckRuleFiles` values; any mix of getters) a call computes from exactly the tables a fresh session would -/
theorem history_independent (fs : FS) (hs : Sane fs) (hist : List (Pref × Bool × Bool)) (p : Pref) (ignore full : Bool) :
    view (call (run fs hist Caches.empty) p ignore full fs).1 full = view (call Caches.empty p ignore full fs).1 full := by
  rw [(call_spec _ p ignore full fs hs (run_coherent fs hs hist _ (coh_empty fs))).2.1,
      (call_spec _ p ignore full fs hs (coh_empty fs)).2.1]

/-- switching a preference away and back restores the same tables -/
theorem pref_roundtrip (fs : FS) (hs : Sane fs) (s : Caches) (hc : CohAll s fs) (p p' : Pref) (ig full : Bool) :
    view (call (call (call s p ig full fs).1 p' ig full fs).1 p ig full fs).1 full = view (call s p ig full fs).1 full := by
  have c1 := call_spec s p ig full fs hs hc
  have c2 := call_spec _ p' ig full fs hs c1.2.2
  have c3 := call_spec _ p ig full fs hs c2.2.2
  rw [c3.2.1, c1.2.1]

/-- two sessions (threads) own disjoint caches: a step of one does not change what the other computes from (the product
machine steps component-wise; that every mutable static of src/ is thread_local is checked by the translator) -/
theorem sessions_independent (a b : Caches) (pa pb : Pref) (ig full : Bool) (fs : FS) :
    let stepA := fun (st : Caches × Caches) => ((call st.1 pa ig full fs).1, st.2)
    let stepB := fun (st : Caches × Caches) => (st.1, (call st.2 pb ig full fs).1)
    stepA (stepB (a, b)) = stepB (stepA (a, b)) := rfl

/-- non-vacuity: a concrete file system with includes -/
def demoFs : FS := { content := fun p => 100 + p, mtime := fun p => 10 + p, good := fun _ => true,
                     incl := fun p => if p = 1 then [1, 7, 8] else [p] }
example : Sane demoFs := ⟨by intro p; simp [demoFs], by intro p; by_cases h : p = 1 <;> simp [demoFs, h]⟩
example : view (call (run demoFs [(⟨2, 3, 4, 5⟩, true, true), (⟨1, 3, 4, 5⟩, false, false)] Caches.empty) ⟨1, 3, 6, 5⟩ true true demoFs).1 true
    = [[(1, 101), (7, 107), (8, 108)], [(3, 103)], [(6, 106)], [(5, 105)]] := by decide

end MC.Props.C10
