import MC.Model.Speech
import MC.Props.Edit
/-!
The string functions of `MC.Speech` as edits (`MC.Edit`): each only deletes characters of the pattern / of a class and
only inserts characters of the replacement, which is all that C04 (content is conserved) and C05 (nothing foreign
appears) need of them.
-/
namespace MC.Speech
variable {D I : Nat → Prop}

theorem stripPrefix_eq {pat s rest : Str} (h : stripPrefix? pat s = some rest) : s = pat ++ rest := by
  fun_induction stripPrefix? pat s with
  | case1 r => exact Option.some.inj h ▸ rfl   -- the pattern is used up: what is left is the rest
  | case2 => cases h                            -- the string ends first
  | case3 p ps cs ih => rw [ih h]; rfl          -- the heads agree
  | case4 => cases h                            -- the heads differ

theorem replaceAll_edit {pat rep : Str} (hp : ∀ c ∈ pat, D c) (hr : ∀ c ∈ rep, I c) :
    ∀ (f : Nat) (s : Str), Edit D I s (replaceAll pat rep f s)
  | 0, s => .refl s
  | _ + 1, [] => .nil
  | f + 1, x :: r => by
    rw [replaceAll]
    split
    · rename_i rest hs
      rw [stripPrefix_eq hs]
      exact .dels hp (.inss hr (replaceAll_edit hp hr f rest))
    · exact .keep x (replaceAll_edit hp hr f r)

theorem replaceS_edit {pat rep : Str} (hp : ∀ c ∈ pat, D c) (hr : ∀ c ∈ rep, I c) (s : Str) :
    Edit D I s (replaceS pat rep s) := replaceAll_edit hp hr _ s

theorem replaceAll_single_nil (c : Nat) : ∀ (f : Nat) (s : Str), s.length ≤ f → replaceAll [c] [] f s = s.filter (· ≠ c)
  | 0, [], _ => rfl
  | _ + 1, [], _ => rfl
  | f + 1, x :: r, h => by
    have ih := replaceAll_single_nil c f r (Nat.le_of_succ_le_succ h)
    by_cases hx : c = x
    · subst hx; simpa [replaceAll, stripPrefix?] using ih
    · simpa [replaceAll, stripPrefix?, hx, Ne.symm hx] using ih

theorem trimStart_edit (hws : ∀ c, isWs c = true → D c) (s : Str) : Edit D I s (trimStart s) :=
  .dropWhile isWs hws s
theorem trimEnd_edit (hws : ∀ c, isWs c = true → D c) (s : Str) : Edit D I s (trimEnd s) :=
  .dropWhile_end isWs hws s
theorem trim_edit (hws : ∀ c, isWs c = true → D c) (s : Str) : Edit D I s (trim s) :=
  (trimStart_edit hws s).trans (trimEnd_edit hws _)

theorem pauseRuns_chars : ∀ (f : Nat) (s : Str), ∀ m ∈ pauseRuns f s, ∀ c ∈ m, isPauseCh c = true
  | 0, _, m, h => nomatch h
  | _ + 1, [], m, h => nomatch h
  | f + 1, x :: r, m, h => by
    rw [pauseRuns] at h
    split at h
    · rcases List.mem_append.mp h with h | h
      · split at h
        · cases List.mem_singleton.mp h
          exact fun c hc => List.all_eq_true.mp List.all_takeWhile c hc
        · cases h
      · exact pauseRuns_chars f _ m h
    · exact pauseRuns_chars f r m h

theorem mergePausesNone_edit (hp : ∀ c, isPauseCh c = true → D c) (h59 : I 59) (s : Str) :
    Edit D I s (mergePausesNone s) := by
  unfold mergePausesNone
  have hm := pauseRuns_chars s.length s
  generalize pauseRuns s.length s = ms at hm
  induction ms generalizing s with
  | nil => exact .refl s
  | cons m ms ih =>
    refine (replaceS_edit (fun c hc => hp c (hm m List.mem_cons_self c hc)) ?_ s).trans
      (ih _ fun m' h' => hm m' (List.mem_cons_of_mem _ h'))
    intro c hc
    cases List.mem_singleton.mp hc
    exact h59

end MC.Speech
