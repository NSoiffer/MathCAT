/-!
`Edit D I s t`: the string `t` comes from the string `s` by deleting characters of class `D` and inserting characters of
class `I`, anywhere — the shape of the stages of speech generation and, with nothing inserted, of trimming and collapsing
blanks. A character-to-string homomorphism that erases both classes does not see such an edit, and every character of `t`
is one of `s` or of class `I`.
-/
namespace MC

inductive Edit (D I : Nat → Prop) : List Nat → List Nat → Prop where
  | refl (s : List Nat) : Edit D I s s
  | delete {c : Nat} : D c → Edit D I [c] []
  | insert {c : Nat} : I c → Edit D I [] [c]
  | append {s t s' t' : List Nat} : Edit D I s t → Edit D I s' t' → Edit D I (s ++ s') (t ++ t')
  | trans {s t u : List Nat} : Edit D I s t → Edit D I t u → Edit D I s u

namespace Edit
variable {D I : Nat → Prop} {s t : List Nat}

theorem nil : Edit D I [] [] := refl []
theorem keep (c : Nat) (h : Edit D I s t) : Edit D I (c :: s) (c :: t) := (refl [c]).append h
theorem del {c : Nat} (hc : D c) (h : Edit D I s t) : Edit D I (c :: s) t := (delete hc).append h
theorem ins {c : Nat} (hc : I c) (h : Edit D I s t) : Edit D I s (c :: t) := (insert hc).append h

theorem dels {l : List Nat} (hl : ∀ c ∈ l, D c) (h : Edit D I s t) : Edit D I (l ++ s) t := by
  induction l with
  | nil => exact h
  | cons c r ih => exact .del (hl c List.mem_cons_self) (ih fun d hd => hl d (List.mem_cons_of_mem _ hd))

theorem inss {l : List Nat} (hl : ∀ c ∈ l, I c) (h : Edit D I s t) : Edit D I s (l ++ t) := by
  induction l with
  | nil => exact h
  | cons c r ih => exact .ins (hl c List.mem_cons_self) (ih fun d hd => hl d (List.mem_cons_of_mem _ hd))

theorem mono {D' I' : Nat → Prop} (hD : ∀ c, D c → D' c) (hI : ∀ c, I c → I' c) (h : Edit D I s t) : Edit D' I' s t := by
  induction h with
  | refl s => exact .refl s
  | delete hc => exact .delete (hD _ hc)
  | insert hc => exact .insert (hI _ hc)
  | append _ _ ih ih' => exact ih.append ih'
  | trans _ _ ih ih' => exact ih.trans ih'

theorem mem (h : Edit D I s t) {c : Nat} (hc : c ∈ t) : c ∈ s ∨ I c := by
  induction h with
  | refl => exact .inl hc
  | delete => cases hc
  | insert hd => cases List.mem_singleton.mp hc; exact .inr hd
  | append _ _ ih ih' =>
    rcases List.mem_append.mp hc with hc | hc
    · exact (ih hc).imp_left (List.mem_append_left _)
    · exact (ih' hc).imp_left (List.mem_append_right _)
  | trans _ _ ih ih' => exact (ih' hc).elim ih .inr

theorem subset (h : Edit D (fun _ => False) s t) {c : Nat} (hc : c ∈ t) : c ∈ s := (h.mem hc).resolve_right id

theorem flatMap_eq {f : Nat → List Nat} (hD : ∀ c, D c → f c = []) (hI : ∀ c, I c → f c = []) (h : Edit D I s t) :
    t.flatMap f = s.flatMap f := by
  induction h with
  | refl => rfl
  | delete hc => rw [List.flatMap_singleton, hD _ hc]; rfl
  | insert hc => rw [List.flatMap_singleton, hI _ hc]; rfl
  | append _ _ ih ih' => rw [List.flatMap_append, List.flatMap_append, ih, ih']
  | trans _ _ ih ih' => exact ih'.trans ih

theorem filter_eq {q : Nat → Bool} (hD : ∀ c, D c → q c = false) (hI : ∀ c, I c → q c = false) (h : Edit D I s t) :
    t.filter q = s.filter q := by
  have e : ∀ l : List Nat, l.filter q = l.flatMap fun c => if q c then [c] else [] := fun l => by
    induction l with
    | nil => rfl
    | cons c r ih => rw [List.filter_cons, List.flatMap_cons, ih]; split <;> rfl
  rw [e, e]
  exact h.flatMap_eq (fun c hc => by rw [hD c hc]; rfl) fun c hc => by rw [hI c hc]; rfl

theorem reverse (h : Edit D I s t) : Edit D I s.reverse t.reverse := by
  induction h with
  | refl => exact .refl _
  | delete hc => exact .delete hc
  | insert hc => exact .insert hc
  | append _ _ ih ih' => rw [List.reverse_append, List.reverse_append]; exact ih'.append ih
  | trans _ _ ih ih' => exact ih.trans ih'

theorem filter (p : Nat → Bool) (hp : ∀ c, p c = false → D c) : ∀ s : List Nat, Edit D I s (s.filter p)
  | [] => .nil
  | c :: r => by
    rw [List.filter_cons]
    split
    · exact .keep c (filter p hp r)
    · rename_i h; exact .del (hp c (Bool.eq_false_iff.mpr h)) (filter p hp r)

theorem dropWhile (p : Nat → Bool) (hp : ∀ c, p c = true → D c) : ∀ s : List Nat, Edit D I s (s.dropWhile p)
  | [] => .nil
  | c :: r => by
    rw [List.dropWhile_cons]
    split
    · rename_i h; exact .del (hp c h) (dropWhile p hp r)
    · exact .refl _

theorem dropWhile_end (p : Nat → Bool) (hp : ∀ c, p c = true → D c) (s : List Nat) :
    Edit D I s (s.reverse.dropWhile p).reverse := by
  have := (dropWhile (I := I) p hp s.reverse).reverse
  rwa [List.reverse_reverse] at this

end Edit

end MC
