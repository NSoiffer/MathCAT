import MC.Spec.Canon
/-!
# C09 — every node gets a unique id and author ids are kept (`add_ids`)

Theorems about `MC.Xml.addIds` for EVERY tree, prefix, starting counter and set of ids seen so far.
-/
namespace MC.Props.C09
open MC.Xml

def gen (pre : Str) (k : Nat) : Str := pre ++ natToStr k

theorem natToStr_injective (a b : Nat) (h : natToStr a = natToStr b) : a = b := by
  -- the digits of `toString n` read back as `n` (the chain of core lemmas of this Lean version about `Nat.repr`)
  have key : ∀ n : Nat, Nat.ofDigitChars 10 (toString n).toList 0 = n := fun n => by
    rw [Nat.toString_eq_repr, Nat.toList_repr]; exact Nat.ofDigitChars_ten_toDigits
  rw [← key a, ← key b, (List.map_inj_right fun x y hxy => Char.toNat_inj.mp hxy).mp h]

theorem gen_injective (pre : Str) (a b : Nat) (h : gen pre a = gen pre b) : a = b :=
  natToStr_injective a b (List.append_cancel_left h)

theorem idOf_setId (attrs : List (Str × Str)) (v : Str) : idOf (setId attrs v) = some v := by
  induction attrs with
  | nil => simp [setId, hasId, idOf]
  | cons x xs ih =>
    by_cases hx : x.1 = s "id"
    · simp [setId, hasId, idOf, hx]
    · -- an attribute other than `id` stays in front, in both branches of `setId`
      have : setId (x :: xs) v = x :: setId xs v := by
        simp only [setId, hasId, List.any_cons, hx, decide_false, Bool.false_or]
        split <;> rename_i h <;> simp [hx, h]
      rw [this]
      simpa [idOf, hx] using ih

/-- invariant of the traversal: no id the counter can still produce has been seen -/
def Inv (pre : Str) (c : Nat) (seen : List Str) : Prop := seen.Nodup ∧ ∀ k, c ≤ k → gen pre k ∉ seen

/-! `visit` looks at nothing of an element but its author id, so what `add_ids` does to the counter and to the ids seen is a left fold
of `step` over `idsOf t`; the statements about `addIds` are statements about that fold. -/

def step (pre : Str) (st : Nat × List Str) (o : Option Str) : Nat × List Str :=
  match o with
  | some a => if st.2.contains a then (st.1 + 1, gen pre st.1 :: st.2) else (st.1, a :: st.2)
  | none => (st.1 + 1, gen pre st.1 :: st.2)

/-- state, pushed ids, provenance: the three clauses that `addIds_trace` carries through the tree -/
theorem visit_step (pre : Str) (c : Nat) (seen : List Str) (attrs : List (Str × Str)) :
    (visit pre c seen attrs).2 = step pre (c, seen) (idOf attrs) ∧
    (visit pre c seen attrs).2.2.map some = idOf (visit pre c seen attrs).1 :: seen.map some ∧
    (idOf (visit pre c seen attrs).1 = some (gen pre c) ∨ idOf (visit pre c seen attrs).1 = idOf attrs) := by
  unfold visit step
  cases h : idOf attrs with
  | none => exact ⟨rfl, by simp [idOf_setId], .inl (idOf_setId _ _)⟩
  | some a =>
    dsimp only
    split <;> simp [idOf_setId, gen, h]

mutual
theorem addIds_trace (pre : Str) (c : Nat) (seen : List Str) (t : Node) :
    (addIds pre c seen t).2 = (idsOf t).foldl (step pre) (c, seen) ∧
    (addIds pre c seen t).2.2.map some = (idsOf (addIds pre c seen t).1).reverse ++ seen.map some ∧
    ∀ i ∈ idsOf (addIds pre c seen t).1, (∃ k, i = some (gen pre k)) ∨ i ∈ idsOf t := by
  cases t with
  | text x => simp [addIds, idsOf]
  | elem n attrs kids =>
    obtain ⟨hv, hpush, hid⟩ := visit_step pre c seen attrs
    have hid' : (∃ k, idOf (visit pre c seen attrs).1 = some (gen pre k)) ∨ idOf (visit pre c seen attrs).1 = idOf attrs :=
      hid.imp_left fun h => ⟨c, h⟩
    -- in the state clauses `← hv` turns the fold's first `step … (idOf attrs)` back into `(visit …).2`, which is what
    -- `addIds` unfolds to
    by_cases hl : isLeafName n = true
    · -- a leaf: `visit` alone
      refine ⟨?_, ?_, ?_⟩
      · simp [addIds, idsOf, hl, ← hv]
      · simp [addIds, idsOf, hl, hpush]
      · simp [addIds, idsOf, hl, hid']
    · -- `visit`, then the children from the state it leaves
      obtain ⟨ih1, ih2, ih3⟩ := addIdsL_trace pre (visit pre c seen attrs).2.1 (visit pre c seen attrs).2.2 kids
      refine ⟨?_, ?_, fun i hi => ?_⟩
      · simp [addIds, idsOf, hl, ← hv, ih1]
      · simp [addIds, idsOf, hl, hpush, ih2]
      · simp only [addIds, idsOf, hl, Bool.false_eq_true, if_false, List.mem_cons] at hi ⊢
        rcases hi with rfl | hi
        · exact hid'.imp_right .inl
        · exact (ih3 i hi).imp_right .inr
theorem addIdsL_trace (pre : Str) (c : Nat) (seen : List Str) (ts : List Node) :
    (addIdsL pre c seen ts).2 = (idsOfL ts).foldl (step pre) (c, seen) ∧
    (addIdsL pre c seen ts).2.2.map some = (idsOfL (addIdsL pre c seen ts).1).reverse ++ seen.map some ∧
    ∀ i ∈ idsOfL (addIdsL pre c seen ts).1, (∃ k, i = some (gen pre k)) ∨ i ∈ idsOfL ts := by
  cases ts with
  | nil => simp [addIdsL, idsOfL]
  | cons k ks =>
    obtain ⟨h1, h2, h3⟩ := addIds_trace pre c seen k
    obtain ⟨l1, l2, l3⟩ := addIdsL_trace pre (addIds pre c seen k).2.1 (addIds pre c seen k).2.2 ks
    refine ⟨?_, ?_, fun i hi => ?_⟩
    · simp [addIdsL, idsOfL, List.foldl_append, ← h1, l1]   -- the fold over `idsOf k ++ idsOfL ks` splits
    · simp [addIdsL, idsOfL, h2, l2]
    · simp only [addIdsL, idsOfL, List.mem_append] at hi ⊢
      exact hi.elim (fun hi => (h3 i hi).imp_right .inl) (fun hi => (l3 i hi).imp_right .inr)
end

theorem step_inv (pre : Str) (st : Nat × List Str) (o : Option Str) (hI : Inv pre st.1 st.2) (hA : ∀ k, o ≠ some (gen pre k)) :
    st.1 ≤ (step pre st o).1 ∧ Inv pre (step pre st o).1 (step pre st o).2 := by
  -- the element gets the generated id of the counter, and the counter moves on
  have fresh : st.1 ≤ st.1 + 1 ∧ Inv pre (st.1 + 1) (gen pre st.1 :: st.2) := by
    refine ⟨Nat.le_succ _, List.nodup_cons.mpr ⟨hI.2 _ (Nat.le_refl _), hI.1⟩, fun k hk hm => ?_⟩
    rcases List.mem_cons.mp hm with h | h
    · have := gen_injective pre k st.1 h; omega
    · exact hI.2 k (by omega) h
  unfold step
  split
  · split
    · exact fresh
    · rename_i a hc
      -- the author's id is new
      refine ⟨Nat.le_refl _, List.nodup_cons.mpr ⟨by simpa using hc, hI.1⟩, fun k hk hm => ?_⟩
      rcases List.mem_cons.mp hm with h | h
      · exact hA k (by rw [h])
      · exact hI.2 k hk h
  · exact fresh

theorem foldl_step_inv (pre : Str) (os : List (Option Str)) (st : Nat × List Str) (hI : Inv pre st.1 st.2)
    (hA : ∀ k, some (gen pre k) ∉ os) :
    st.1 ≤ (os.foldl (step pre) st).1 ∧ Inv pre (os.foldl (step pre) st).1 (os.foldl (step pre) st).2 := by
  induction os generalizing st with
  | nil => exact ⟨Nat.le_refl _, hI⟩
  | cons o os ih =>
    obtain ⟨h1, h2⟩ := step_inv pre st o hI fun k h => hA k (by simp [h])
    obtain ⟨h3, h4⟩ := ih (step pre st o) h2 fun k h => hA k (by simp [h])
    exact ⟨Nat.le_trans h1 h3, h4⟩

/-- the traversal keeps the invariant, and the ids it pushes on `seen` are exactly the ids of the elements it visited -/
theorem addIdsL_spec (pre : Str) (c : Nat) (seen : List Str) (ts : List Node) (hI : Inv pre c seen)
    (hA : ∀ k, some (gen pre k) ∉ idsOfL ts) :
    c ≤ (addIdsL pre c seen ts).2.1 ∧ Inv pre (addIdsL pre c seen ts).2.1 (addIdsL pre c seen ts).2.2 ∧
    (addIdsL pre c seen ts).2.2.map some = (idsOfL (addIdsL pre c seen ts).1).reverse ++ seen.map some := by
  obtain ⟨h1, h2, _⟩ := addIdsL_trace pre c seen ts
  have := foldl_step_inv pre (idsOfL ts) (c, seen) hI hA
  rw [← h1] at this
  exact ⟨this.1, this.2, h2⟩

/-- **every element `add_ids` visits carries an id afterwards, and all these ids are distinct** — also when the author
repeated ids — provided no author id has the shape `<this call's random prefix><digits>` -/
theorem addIds_distinct (pre : Str) (t : Node) (hA : ∀ k, some (gen pre k) ∉ idsOf t) :
    (idsOf (addIds pre 0 [] t).1).Nodup ∧ ∀ i ∈ idsOf (addIds pre 0 [] t).1, i.isSome = true := by
  obtain ⟨h1, h2, _⟩ := addIds_trace pre 0 [] t
  have hinv := (foldl_step_inv pre (idsOf t) (0, []) ⟨List.nodup_nil, by simp⟩ hA).2
  rw [← h1] at hinv
  -- the ids of the output, reversed, are the ids seen at the end, which are distinct
  have hmap : (idsOf (addIds pre 0 [] t).1).reverse = (addIds pre 0 [] t).2.2.map some := by simpa using h2.symm
  have hn : (idsOf (addIds pre 0 [] t).1).reverse.Nodup :=
    hmap ▸ List.Pairwise.map some (fun a b (hab : a ≠ b) h => hab (Option.some.inj h)) hinv.1
  refine ⟨(List.pairwise_reverse.mp hn).imp Ne.symm, fun i hi => ?_⟩
  obtain ⟨x, _, rfl⟩ := List.mem_map.mp (hmap ▸ List.mem_reverse.mpr hi)
  rfl

/-- no id is invented: every id of the output is a generated one or occurs among the author's ids (the statement does not say
on which element) -/
theorem addIds_keeps_author (pre : Str) (c : Nat) (seen : List Str) (t : Node) :
    ∀ i ∈ idsOf (addIds pre c seen t).1, (∃ k, i = some (gen pre k)) ∨ i ∈ idsOf t :=
  (addIds_trace pre c seen t).2.2

theorem addIdsL_keeps_author (pre : Str) (c : Nat) (seen : List Str) (ts : List Node) :
    ∀ i ∈ idsOfL (addIdsL pre c seen ts).1, (∃ k, i = some (gen pre k)) ∨ i ∈ idsOfL ts :=
  (addIdsL_trace pre c seen ts).2.2

/-- the premise of `addIds_distinct` is satisfiable and the conclusion non-trivial: a tree with a repeated author id -/
example : (idsOf (addIds (s "M-") 0 [] (.elem (s "mrow") [(s "id", s "a")] [.elem (s "mi") [(s "id", s "a")] [], .elem (s "mi") [] []])).1)
    = [some (s "a"), some (s "M-0"), some (s "M-1")] := by decide +kernel

end MC.Props.C09
