import MC.Model.Rows
import MC.Props.IteInd
/-!
# What the operations of the row parser do to the stack of frames

The case tree of `MC.Rows` is walked once, here: `reduce` repeats one move, `shift` followed by the `addToTop` that ends the
loop body has six results and one way to panic (`ShiftAdd`), and inserting an invisible times is the same `reduceShift` as any
other infix token. The theorems about the parse (its yield, its asserts, the separation of operands) argue per move and per result.
-/
namespace MC.Rows

theorem Outcome.bind_eq_ok {α β : Type} {x : Outcome α} {f : α → Outcome β} {b : β} :
    x.bind f = .ok b ↔ ∃ a, x = .ok a ∧ f a = .ok b := by
  cases x with
  | ok a => exact ⟨fun h => ⟨a, rfl, h⟩, fun ⟨_, ha, h⟩ => by cases ha; exact h⟩
  | panic p => exact ⟨nofun, fun ⟨_, ha, _⟩ => nomatch ha⟩

def Frame.absorb (f : Frame) (t : T) : Frame := { f with rkids := t :: f.rkids, isOperand := true }

/-- `remove_last_operand_from_mrow` -/
def Frame.cut (f : Frame) (init : List T) : Frame := { f with rkids := init, isOperand := false }

/-- the condition is the assert of `add_child_to_mrow` -/
theorem Frame.addOperand_eq_ok {f b : Frame} {t : T} : f.addOperand t = .ok b ↔ f.isOperand = false ∧ b = f.absorb t := by
  unfold Frame.addOperand
  cases f.isOperand
  · exact ⟨fun h => ⟨rfl, by cases h; rfl⟩, fun h => by rw [h.2]; rfl⟩
  · exact ⟨nofun, fun h => nomatch h.1⟩

theorem reduceOne_eq_ok {top below : Frame} {rest s' : List Frame} :
    reduceOne (top :: below :: rest) = .ok s' ↔ below.isOperand = false ∧ s' = below.absorb top.close :: rest := by
  simp only [reduceOne, Outcome.bind_eq_ok, Frame.addOperand_eq_ok, Outcome.ok.injEq]
  exact ⟨fun ⟨b, ⟨hw, hb⟩, h⟩ => ⟨hw, by rw [← h, hb]⟩, fun ⟨hw, h⟩ => ⟨_, ⟨hw, rfl⟩, h.symm⟩⟩

theorem addToTop_none_eq_ok {s s' : List Frame} {t : T} : addToTop s t none = .ok s' ↔
    ∃ top rest, s = top :: rest ∧ top.isOperand = false ∧ s' = top.absorb t :: rest := by
  cases s with
  | nil => exact ⟨nofun, fun ⟨_, _, he, _⟩ => nomatch he⟩
  | cons top rest =>
    simp only [addToTop, Outcome.bind_eq_ok, Frame.addOperand_eq_ok, Outcome.ok.injEq]
    exact ⟨fun ⟨b, ⟨hw, hb⟩, h⟩ => ⟨top, rest, rfl, hw, by rw [← h, hb]⟩,
      fun ⟨_, _, he, hw, h⟩ => by cases he; exact ⟨_, ⟨hw, rfl⟩, h.symm⟩⟩

def Waiting (s : List Frame) : Prop := ∀ f ∈ s.tail, f.isOperand = false

theorem reduce_ind {P : List Frame → Prop} {cur : Nat}
    (hP : ∀ top below rest, cur < top.op.prio → below.isOperand = false → P (top :: below :: rest) →
      P (below.absorb top.close :: rest)) :
    ∀ (fuel : Nat) (s s' : List Frame), reduce cur fuel s = .ok s' → P s → P s'
  | 0, s, s', h, hs => by cases h; exact hs
  | fuel+1, s, s', h, hs => by
    unfold reduce at h
    split at h
    next top below rest =>
      split at h
      next hlt =>
        -- the top frame binds tighter than `cur`: it is closed into the frame below, and `reduce` goes on
        obtain ⟨s1, h1, h⟩ := Outcome.bind_eq_ok.mp h
        obtain ⟨hw, rfl⟩ := reduceOne_eq_ok.mp h1
        exact reduce_ind hP fuel _ s' h (hP _ _ _ hlt hw hs)
      next => cases h; exact hs
    next => cases h; exact hs

theorem reduce_ok (cur : Nat) : ∀ (fuel : Nat) (s : List Frame), Waiting s → ∃ s', reduce cur fuel s = .ok s'
  | 0, s, _ => ⟨s, rfl⟩
  | fuel+1, s, hw => by
    unfold reduce
    split
    next top below rest =>
      split
      next =>
        rw [reduceOne_eq_ok.mpr ⟨hw below List.mem_cons_self, rfl⟩]
        exact reduce_ok cur fuel _ fun f hf => hw f (List.mem_cons_of_mem _ hf)
      next => exact ⟨_, rfl⟩
    next => exact ⟨_, rfl⟩

def shiftAdd (s : List Frame) (child : T) (o : Op) : Outcome (List Frame) :=
  (shift s child o).bind fun r => addToTop r.1 r.2.1 r.2.2

inductive ShiftAdd (top : Frame) (rest : List Frame) (child : T) (o : Op) : Outcome (List Frame) → Prop
  /-- n-ary with the operator of the top frame: the operator joins that frame -/
  | nary : isNary o top.op = true → ShiftAdd top rest child o (.ok (top.addOp child o :: rest))
  /-- the top frame has no operand to give: a new frame is opened with the operator -/
  | opened : isNary o top.op = false → top.rkids = [] ∨ top.isOperand = false →
      ShiftAdd top rest child o (.ok (⟨[child], o, false⟩ :: top :: rest))
  /-- a right fence after one child that is no left fence: the two make an operand of a fresh frame -/
  | orphan (t : T) : o.isRightFence = true → top.rkids = [t] → startsWithLeftFence ⟨[child, t], o, false⟩ = false →
      ShiftAdd top rest child o (.ok (Frame.new.absorb (.row [t, child]) :: rest))
  /-- a right fence closes the top frame, which becomes an operand of the frame below -/
  | closed (below : Frame) (rest' : List Frame) : o.isRightFence = true → rest = below :: rest' → below.isOperand = false →
      ShiftAdd top rest child o (.ok (below.absorb (.row (child :: top.rkids).reverse) :: rest'))
  /-- … unless there is no frame below, or it holds an operand already -/
  | stuck (site : String) : top.rkids ≠ [] → (∀ t, top.rkids = [t] → startsWithLeftFence ⟨[child, t], o, false⟩ = true) →
      (∀ below ∈ rest.head?, below.isOperand = true) → ShiftAdd top rest child o (.panic site)
  /-- a postfix operator makes a row with the last operand, which goes back in its place -/
  | postfixOp (last : T) (init : List T) : o.isPostfix = true → top.rkids = last :: init → top.isOperand = true →
      ShiftAdd top rest child o (.ok ((top.cut init).absorb (.row [last, child]) :: rest))
  /-- an infix operator takes the last operand into a new frame -/
  | infixOp (last : T) (init : List T) : top.rkids = last :: init → top.isOperand = true →
      ShiftAdd top rest child o (.ok (⟨[child, last], o, false⟩ :: top.cut init :: rest))

/-- what `shift_spec` says of an outcome `x` of `shift`: it is no panic, what `addToTop` makes of it is as `ShiftAdd` says, and
an operator that is neither a right fence nor postfix is handed back (which the assert at the end of `insertImplied` asks for) -/
def ShiftOk (top : Frame) (rest : List Frame) (child : T) (o : Op) (x : Outcome (List Frame × T × Option Op)) : Prop :=
  ∃ r, x = .ok r ∧ ShiftAdd top rest child o (addToTop r.1 r.2.1 r.2.2) ∧
    (o.isRightFence = false → o.isPostfix = false → r.2.2 = some o)

/-- `shift_stack` itself never panics on a stack that is not empty: its two asserts are dead code -/
theorem shift_spec (top : Frame) (rest : List Frame) (child : T) (o : Op) : ShiftOk top rest child o (shift (top :: rest) child o) := by
  simp only [shift]
  -- `is_nary`
  refine ite_ind (fun hnary => ⟨_, rfl, .nary hnary, fun _ _ => rfl⟩) fun hnary => ?_
  -- the top frame is empty, or it waits for an operand and `o` is no right fence
  refine ite_ind (fun hgive => ?_) fun hgive => ?_
  · refine ⟨_, rfl, .opened (by simpa using hnary) ?_, fun _ _ => rfl⟩
    simp only [Bool.or_eq_true, List.isEmpty_iff, Bool.and_eq_true, Bool.not_eq_true'] at hgive
    exact hgive.imp_right And.left
  have hne : top.rkids ≠ [] := fun he => hgive (by rw [he]; rfl)
  refine ite_ind (fun hrf => ?_) fun hrf => ?_
  · -- a right fence: it joins the top frame, which is closed
    have hnone : o.isRightFence = false → o.isPostfix = false → (none : Option Op) = some o :=
      fun hr _ => absurd hrf (by rw [hr]; exact Bool.false_ne_true)
    have hstart : ∀ t, top.rkids = [t] → top.addOp child o = ⟨[child, t], o, false⟩ := fun t hk => by rw [Frame.addOp, hk]
    refine ite_ind (fun hc => ?_) fun hc => ?_
    · -- … after a single child that is no left fence: `x )`
      simp only [Bool.and_eq_true, decide_eq_true_eq, Bool.not_eq_true'] at hc
      obtain ⟨t, hk⟩ : ∃ t, top.rkids = [t] := List.length_eq_one_iff.mp (Nat.succ.inj hc.1)
      refine ⟨_, rfl, ?_, hnone⟩
      rw [hstart t hk] at hc ⊢
      exact .orphan t hrf hk hc.2
    · -- … otherwise the closed frame goes into the frame below, if there is one and it waits
      refine ⟨_, rfl, ?_, hnone⟩
      have hc' : ∀ t, top.rkids = [t] → startsWithLeftFence ⟨[child, t], o, false⟩ = true := fun t hk => by
        rw [hstart t hk] at hc
        cases hx : startsWithLeftFence ⟨[child, t], o, false⟩ with
        | true => rfl
        | false => exact absurd (by rw [hx]; rfl) hc
      cases rest with
      | nil => exact .stuck _ hne hc' nofun
      | cons below rest' =>
        simp only [addToTop, Frame.addOperand]
        cases hb : below.isOperand with
        | false => exact .closed below rest' hrf rfl hb
        | true => exact .stuck _ hne hc' fun _ h => by rw [← Option.some.inj h]; exact hb
  · -- infix or postfix: the last operand of the top frame is taken out (`remove_last_operand_from_mrow`)
    have hop : top.isOperand = true := by
      cases h : top.isOperand with
      | true => rfl
      | false => exact absurd (by rw [h, Bool.not_eq_true _ |>.mp hrf, Bool.or_eq_true]; exact .inr rfl) hgive
    cases hk : top.rkids with
    | nil => exact absurd hk hne
    | cons last init =>
      dsimp only
      -- its assert holds: the frame ends in an operand
      refine ite_ind (fun hdead => ?_) fun _ => ite_ind (fun hpf => ?_) fun _ => ?_
      · rw [hop] at hdead; cases hdead
      · exact ⟨_, rfl, .postfixOp last init hpf hk hop, fun _ hp => absurd hpf (by rw [hp]; exact Bool.false_ne_true)⟩
      · exact ⟨_, rfl, .infixOp last init hk hop, fun _ _ => rfl⟩

theorem ShiftAdd.ne_nil {top : Frame} {rest : List Frame} {child : T} {o : Op} {s' : List Frame}
    (h : ShiftAdd top rest child o (.ok s')) : s' ≠ [] := by
  cases h <;> exact List.cons_ne_nil _ _

theorem ShiftAdd.top_waiting {top : Frame} {rest : List Frame} {child : T} {o : Op} {s' : List Frame}
    (h : ShiftAdd top rest child o (.ok s')) (hrf : o.isRightFence = false) (hpf : o.isPostfix = false) : topIsOperand s' = false := by
  cases h with
  | nary | opened | infixOp => rfl
  | orphan _ h | closed _ _ h => rw [hrf] at h; cases h
  | postfixOp _ _ h => rw [hpf] at h; cases h

theorem shiftAdd_spec (top : Frame) (rest : List Frame) (child : T) (o : Op) :
    ShiftAdd top rest child o (shiftAdd (top :: rest) child o) := by
  obtain ⟨r, h, hs, _⟩ := shift_spec top rest child o
  rw [shiftAdd, h]
  exact hs

def reduceShift (s : List Frame) (child : T) (o : Op) : Outcome (List Frame) :=
  (reduce o.prio s.length s).bind fun s1 => shiftAdd s1 child o

theorem reduceShift_eq_ok {s s' : List Frame} {child : T} {o : Op} (h : reduceShift s child o = .ok s') :
    ∃ top rest, reduce o.prio s.length s = .ok (top :: rest) ∧ ShiftAdd top rest child o (.ok s') := by
  obtain ⟨s1, h1, h⟩ := Outcome.bind_eq_ok.mp h
  cases s1 with
  | nil => cases h    -- `shift` panics on the empty stack
  | cons top rest =>
    have hs := shiftAdd_spec top rest child o
    rw [h] at hs
    exact ⟨top, rest, h1, hs⟩

theorem impliedTimes_infix : impliedTimes.isRightFence = false ∧ impliedTimes.isPostfix = false := by decide +kernel

/-- the assert at the end of `insertImplied` cannot fail: the invisible times is infix, so `shift` hands it back -/
theorem insertImplied_eq (s : List Frame) : insertImplied s = reduceShift s (.op [0x2062] true) impliedTimes := by
  unfold insertImplied reduceShift
  -- the two differ in what follows `reduce`
  refine congrArg _ (funext fun s1 => ?_)
  cases s1 with
  | nil => rfl
  | cons top rest =>
    obtain ⟨r, h, _, hr⟩ := shift_spec top rest (.op [0x2062] true) impliedTimes
    simp only [shiftAdd, h, Outcome.bind, hr impliedTimes_infix.1 impliedTimes_infix.2]

def impliedIf (c : Bool) (s : List Frame) : Outcome (List Frame) :=
  if c then reduceShift s (.op [0x2062] true) impliedTimes else .ok s

theorem impliedIf_waiting {c : Bool} {s s1 : List Frame} (h : impliedIf c s = .ok s1) (hc : topIsOperand s = true → c = true) :
    topIsOperand s1 = false := by
  unfold impliedIf at h
  split at h
  · obtain ⟨_, _, _, hs⟩ := reduceShift_eq_ok h
    exact hs.top_waiting impliedTimes_infix.1 impliedTimes_infix.2
  · cases h
    cases ht : topIsOperand s
    · rfl
    · exact absurd (hc ht) ‹_›

theorem step_operand (s : List Frame) (text : Str) (n : Bool) : step s (.operand text) n =
    (impliedIf (lastIsOperandNode s) s).bind fun s1 => addToTop s1 (.operand text) none := by
  simp only [step, insertImplied_eq, impliedIf]

theorem step_mo (s : List Frame) (text : Str) (n : Bool) : step s (.mo text) n =
    let o := findOperator text (topIsOperand s || (topOp s).isPostfix) n
    if o.isLeftFence || o.isPrefix then (impliedIf (topIsOperand s) s).bind fun s1 => .ok (⟨[.op text false], o, false⟩ :: s1)
    else reduceShift s (.op text false) o := by
  simp only [step, insertImplied_eq, impliedIf]
  rfl

/-- `pre`: the tokens read so far, so that `P` may speak of them -/
theorem run_ind {P : List Tok → List Frame → Prop}
    (hP : ∀ pre s t n s', step s t n = .ok s' → P pre s → P (pre ++ [t]) s') :
    ∀ (toks pre : List Tok) (s s' : List Frame), run s toks = .ok s' → P pre s → P (pre ++ toks) s'
  | [], pre, s, s', h, hs => by cases h; simpa using hs
  | t :: ts, pre, s, s', h, hs => by
    obtain ⟨s1, h1, h⟩ := Outcome.bind_eq_ok.mp h
    simpa using run_ind hP ts (pre ++ [t]) s1 s' h (hP _ _ _ _ _ h1 hs)

theorem finish_eq_ok {s : List Frame} {t : T} : finish s = .ok t ↔ ∃ f rest,
    reduce fencepost.prio s.length s = .ok (f :: rest) ∧ t = Frame.close { f with rkids := f.rkids ++ rest.flatMap (·.rkids) } := by
  simp only [finish, Outcome.bind_eq_ok]
  constructor
  · rintro ⟨s1, h1, h⟩
    cases s1 with
    | nil => cases h
    | cons f rest => cases h; exact ⟨f, rest, h1, rfl⟩
  · rintro ⟨f, rest, h1, rfl⟩
    exact ⟨_, h1, rfl⟩

theorem parseRow_eq_ok {toks : List Tok} {t : T} : parseRow toks = .ok t ↔ ∃ s, run [Frame.new] toks = .ok s ∧ finish s = .ok t :=
  Outcome.bind_eq_ok

end MC.Rows

namespace MC.Props.C03
open MC.Rows

theorem reduce_ne_nil (cur fuel : Nat) (s s' : List Frame) (h : reduce cur fuel s = .ok s') (hs : s ≠ []) : s' ≠ [] :=
  reduce_ind (P := (· ≠ [])) (fun _ _ _ _ _ _ => List.cons_ne_nil _ _) fuel s s' h hs

end MC.Props.C03
