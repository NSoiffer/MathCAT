import MC.Props.SpeechLemmas
/-!
The stages of `replace_array_string` and of the clean-up in `speak_rules`. Each is an `Edit` that inserts only the
engine's own characters (`Ins`) and, as long as no optional word has content in front of it (`FrontClean`), deletes
nothing of a content class; what is left to do by hand is to see that the markers are removed completely.
-/
namespace MC.Speech

/-- a "content" projection: a character class that contains none of the characters the engine itself inserts or removes
(space and other white space, the pause punctuation `,` `;`, the three marker characters) -/
structure Content (q : Nat → Bool) : Prop where
  ws : ∀ c, q c = true → isWs c = false
  pause : ∀ c, isPauseCh c = true → q c = false
  fe : q FE = false
  fd : q FD = false
  fa : q FA = false

theorem content_digit : Content isDigit := by
  refine ⟨?_, ?_, by decide, by decide, by decide⟩
  · intro c h
    simp only [isDigit, Bool.and_eq_true, decide_eq_true_eq] at h
    simp only [isWs, Bool.or_eq_false_iff, Bool.and_eq_false_iff, decide_eq_false_iff_not]
    omega
  · intro c h
    simp only [isPauseCh, Bool.or_eq_true, decide_eq_true_eq] at h
    simp only [isDigit, Bool.and_eq_false_iff, decide_eq_false_iff_not]
    omega

/-- the empty class: with it the statements about content speak of insertions only -/
theorem content_none : Content fun _ => false := ⟨nofun, fun _ _ => rfl, rfl, rfl, rfl⟩

theorem Content.notWs {q : Nat → Bool} (hq : Content q) (c : Nat) (h : isWs c = true) : q c = false :=
  Bool.eq_false_iff.mpr fun hc => Bool.false_ne_true (hq.ws c hc ▸ h)

/-- the characters the engine writes of its own: space, the concatenation marker, pause punctuation, the placeholder -/
def Ins (c : Nat) : Prop := c = FA ∨ c = 32 ∨ c = FE ∨ c = 44 ∨ c = 59

theorem Ins.fa : Ins FA := .inl rfl
theorem Ins.sp : Ins 32 := .inr (.inl rfl)
theorem Ins.pause {c : Nat} (h : c = FE ∨ c = 44 ∨ c = 59) : Ins c := .inr (.inr h)
theorem Ins.fe : Ins FE := .pause (.inl rfl)

theorem Ins.of_ne_fa {c : Nat} (h : Ins c) (hfa : c ≠ FA) : c = 32 ∨ c = FE ∨ c = 44 ∨ c = 59 :=
  h.resolve_left hfa

theorem Content.ins {q : Nat → Bool} (hq : Content q) (c : Nat) (h : Ins c) : q c = false := by
  rcases h with rfl | rfl | rfl | rfl | rfl
  · exact hq.fa
  · exact hq.notWs 32 rfl
  · exact hq.fe
  · exact hq.pause 44 rfl
  · exact hq.pause 59 rfl

theorem Content.filter_eq {q : Nat → Bool} (hq : Content q) {s t : Str} (h : Edit (q · = false) Ins s t) :
    t.filter q = s.filter q := h.filter_eq (fun _ h => h) hq.ins

theorem splitAt1_spec (c : Nat) : ∀ {s b a : Str}, splitAt1 c s = some (b, a) → s = b ++ c :: a ∧ c ∉ b
  | x :: r, b, a, h => by
    rw [splitAt1] at h
    split at h
    · rename_i hx
      cases h
      exact ⟨by rw [hx]; rfl, List.not_mem_nil⟩
    · rename_i hx
      obtain ⟨⟨b', a'⟩, hr, h⟩ := Option.map_eq_some_iff.mp h
      cases h
      obtain ⟨e, hn⟩ := splitAt1_spec c hr
      exact ⟨by rw [e]; rfl, fun hm => (List.mem_cons.mp hm).elim (fun e => hx e.symm) hn⟩

theorem splitAt1_notMem (c : Nat) : ∀ (s b a : Str), splitAt1 c s = some (b, a) → c ∉ b :=
  fun _ _ _ h => (splitAt1_spec c h).2

theorem splitAt1_none (c : Nat) : ∀ s : Str, c ∉ s → splitAt1 c s = none
  | [], _ => rfl
  | x :: r, h => by
    rw [splitAt1, if_neg fun e : x = c => h (e ▸ List.mem_cons_self), splitAt1_none c r fun hm => h (List.mem_cons_of_mem _ hm)]
    rfl

/-- the string is `before ⟨word⟩ after` and the result is `after` without leading white space: `before` and `word` are gone -/
theorem isRepetitive_spec {prev x y : Str} (h : isRepetitive prev x = some y) :
    ∃ before rest word after, splitAt1 FD x = some (before, rest) ∧ splitAt1 FD rest = some (word, after) ∧
      y = trimStart after := by
  unfold isRepetitive at h
  split at h
  · cases h                       -- too short to hold two markers
  · split at h
    · cases h                     -- no marker
    next b st hs1 =>
      split at h
      · cases h                   -- no second marker (where the Rust code panics)
      next w a hs2 =>
        simp only at h            -- the `let p := trimEnd prev`
        split at h
        · cases h; exact ⟨b, st, w, a, hs1, hs2, rfl⟩   -- the word repeats the end of `prev`
        · cases h

theorem isRepetitive_noFD (prev x : Str) (h : FD ∉ x) : isRepetitive prev x = none := by
  unfold isRepetitive
  split
  · rfl
  · rw [splitAt1_none FD x h]

/-- the two hypotheses of the join theorems, `FrontClean` and `AutoOK` below, have executable forms in the model (`frontCleanB`,
`autoOkB`): the driver evaluates those on every join that hook H5 logs, which is how the hypotheses are monitored -/
def FrontClean (q : Nat → Bool) (x : Str) : Prop := frontCleanB q x = true

theorem frontClean_none (x : Str) : FrontClean (fun _ => false) x := by
  unfold FrontClean frontCleanB
  split
  · rfl
  · split <;> simp

/-- what is deleted with an optional word is the text in front of it and the word: no content, if the string is `FrontClean` -/
theorem isRepetitive_edit {q : Nat → Bool} (hq : Content q) {I : Nat → Prop} {prev x y : Str} (hf : FrontClean q x)
    (h : isRepetitive prev x = some y) : Edit (q · = false) I x y := by
  obtain ⟨b, st, w, a, hs1, hs2, rfl⟩ := isRepetitive_spec h
  have hclean : (∀ c ∈ b, q c = false) ∧ ∀ c ∈ w, q c = false := by
    unfold FrontClean frontCleanB at hf
    simpa only [hs1, hs2, Bool.and_eq_true, List.isEmpty_iff, List.filter_eq_nil_iff, Bool.not_eq_true] using hf
  rw [(splitAt1_spec FD hs1).1, (splitAt1_spec FD hs2).1]
  exact .dels hclean.1 (.del hq.fd (.dels hclean.2 (.del hq.fd (trimStart_edit hq.notWs a))))

/-- the loop replaces strings, one by one, by what `is_repetitive` makes of them: a relation between lists that is kept
when such a pair is put in front holds between `xs` and `dedupe xs` -/
theorem dedupeGo_rel (R : List Str → List Str → Prop) (nil : R [] [])
    (cons : ∀ x y xs ys, (y = x ∨ ∃ prev, isRepetitive prev x = some y) → R xs ys → R (x :: xs) (y :: ys)) :
    ∀ (xs : List Str) (prev : Str), R xs (dedupeGo prev xs)
  | [], _ => nil
  | [x], _ => cons x x [] [] (.inl rfl) nil
  | x :: x2 :: r, prev => by
    refine cons x _ _ _ ?_ (dedupeGo_rel R nil cons (x2 :: r) _)
    cases hr : isRepetitive prev x with
    | none => exact .inl rfl
    | some z => exact .inr ⟨prev, hr⟩

theorem dedupe_rel (R : List Str → List Str → Prop) (nil : R [] [])
    (cons : ∀ x y xs ys, (y = x ∨ ∃ prev, isRepetitive prev x = some y) → R xs ys → R (x :: xs) (y :: ys)) :
    ∀ xs : List Str, R xs (dedupe xs)
  | [] => nil
  | x :: r => cons x x _ _ (.inl rfl) (dedupeGo_rel R nil cons r x)

theorem dedupeGo_length : ∀ (xs : List Str) (prev : Str), (dedupeGo prev xs).length = xs.length :=
  dedupeGo_rel (fun xs ys => ys.length = xs.length) rfl fun _ _ _ _ _ ih => congrArg (· + 1) ih

theorem dedupe_all (P : Str → Prop) (hP : ∀ prev x y, P x → isRepetitive prev x = some y → P y) :
    ∀ xs : List Str, (∀ x ∈ xs, P x) → ∀ y ∈ dedupe xs, P y := by
  refine dedupe_rel (fun xs ys => (∀ x ∈ xs, P x) → ∀ y ∈ ys, P y) (fun _ _ h => nomatch h)
    fun x y xs ys hxy ih h y' hy' => ?_
  rcases List.mem_cons.mp hy' with rfl | hy'
  · rcases hxy with rfl | ⟨prev, hr⟩
    · exact h _ List.mem_cons_self
    · exact hP prev x _ (h x List.mem_cons_self) hr
  · exact ih (fun z hz => h z (List.mem_cons_of_mem _ hz)) y' hy'

theorem dedupe_edit {q : Nat → Bool} (hq : Content q) {I : Nat → Prop} :
    ∀ xs : List Str, (∀ x ∈ xs, FrontClean q x) → Edit (q · = false) I xs.flatten (dedupe xs).flatten := by
  refine dedupe_rel (fun xs ys => (∀ x ∈ xs, FrontClean q x) → Edit (q · = false) I xs.flatten ys.flatten)
    (fun _ => .nil) fun x y xs ys hxy ih h => ?_
  rw [List.flatten_cons, List.flatten_cons]
  refine .append ?_ (ih fun z hz => h z (List.mem_cons_of_mem _ hz))
  rcases hxy with rfl | ⟨prev, hr⟩
  · exact .refl _
  · exact isRepetitive_edit hq (h x List.mem_cons_self) hr

theorem pauseStr_mem (pf a c : Nat) (h : c ∈ pauseStr pf a) : c = FE ∨ c = 44 ∨ c = 59 := by
  unfold pauseStr at h
  rcases List.mem_cons.mp h with h | h
  · exact .inl h
  · split at h
    · cases h
    · split at h
      · exact .inr (.inl (List.mem_singleton.mp h))
      · exact .inr (.inr (List.mem_singleton.mp h))

theorem autoPause_mem (pf : Nat) (b a : Str) (c : Nat) (h : c ∈ autoPause pf b a) : c = FE ∨ c = 44 ∨ c = 59 := by
  unfold autoPause at h
  split at h
  · cases h
  · exact pauseStr_mem _ _ _ h

theorem containsSub_false_of_notMem (c d : Nat) : ∀ s : Str, c ∉ s → containsSub [c, d] s = false
  | [], _ => rfl
  | x :: r, h => by
    rw [containsSub, stripPrefix?, if_neg fun e : c = x => h (e ▸ List.mem_cons_self),
      containsSub_false_of_notMem c d r fun hm => h (List.mem_cons_of_mem _ hm)]
    rfl

def AutoOK (x : Str) : Prop := FA ∉ x ∨ x = autoStr

theorem autoOkB_sound (x : Str) (h : autoOkB x = true) : AutoOK x := by
  unfold autoOkB at h
  rcases Bool.or_eq_true_iff.mp h with h | h
  · exact .inl fun hm => by rw [List.contains_iff_mem.mpr hm] at h; cases h
  · exact .inr (eq_of_beq h)

/-- one step of `resolveGo`, whatever the pause is computed from -/
def resolve1 (pf : Nat) (b a x : Str) : Str :=
  if containsSub [FA, FA] x then replaceS [FA, FA] (autoPause pf b a) x else x

theorem resolve1_edit {q : Nat → Bool} (hq : Content q) (pf : Nat) (b a x : Str) :
    Edit (q · = false) Ins x (resolve1 pf b a x) := by
  unfold resolve1
  split
  · refine replaceS_edit (fun c hc => ?_) (fun c hc => .pause (autoPause_mem pf b a c hc)) x
    simp only [List.mem_cons, List.not_mem_nil, or_false, or_self] at hc
    exact hc ▸ hq.fa
  · exact .refl x

theorem resolve1_noFA (pf : Nat) (b a : Str) {x : Str} (hx : AutoOK x) : FA ∉ resolve1 pf b a x := by
  unfold resolve1
  rcases hx with hx | rfl
  · rwa [containsSub_false_of_notMem FA FA x hx]
  · intro hm
    have : replaceS [FA, FA] (autoPause pf b a) autoStr = FE :: autoPause pf b a := by
      simp [replaceS, autoStr, replaceAll, stripPrefix?, FE, FA]
    rw [if_pos (by decide), this] at hm
    rcases List.mem_cons.mp hm with e | e
    · exact absurd e (by decide)
    · rcases autoPause_mem _ _ _ _ e with e | e | e <;> exact absurd e (by decide)

theorem resolveGo_edit {q : Nat → Bool} (hq : Content q) (pf : Nat) :
    ∀ (xs : List Str) (before : Str), Edit (q · = false) Ins xs.flatten (resolveGo pf before xs).flatten
  | [], _ => .nil
  | x :: r, before => (resolve1_edit hq pf before _ x).append (resolveGo_edit hq pf r _)

theorem resolveGo_noFA (pf : Nat) : ∀ (xs : List Str) (before : Str), (∀ x ∈ xs, AutoOK x) →
    ∀ y ∈ resolveGo pf before xs, FA ∉ y
  | [], _, _, y, hy => nomatch hy
  | x :: r, before, h, y, hy => by
    rcases List.mem_cons.mp hy with rfl | hy
    · exact resolve1_noFA pf before _ (h x List.mem_cons_self)
    · exact resolveGo_noFA pf r _ (fun z hz => h z (List.mem_cons_of_mem _ hz)) y hy

theorem joinSp_edit {D I : Nat → Prop} (h32 : I 32) : ∀ xs : List Str, Edit D I xs.flatten (joinSp xs)
  | [] => .nil
  | [x] => by
    rw [List.flatten_singleton]
    exact .refl x
  | x :: x2 :: r => (Edit.refl x).append (.ins h32 (joinSp_edit h32 (x2 :: r)))

theorem joinSp_mem {xs : List Str} {c : Nat} (hc : c ∈ joinSp xs) : (∃ x ∈ xs, c ∈ x) ∨ c = 32 :=
  ((joinSp_edit (D := fun _ => True) (I := (· = 32)) rfl xs).mem hc).imp_left List.mem_flatten.mp

/-- **content of a joined array** (partial: under `FrontClean`): up to the engine's own characters the result is the
concatenation of the inputs, with nothing of the class `q` deleted -/
theorem joinArray_edit {q : Nat → Bool} (hq : Content q) (pf : Nat) (xs : List Str) (hf : ∀ x ∈ xs, FrontClean q x) :
    Edit (q · = false) Ins xs.flatten (joinArray pf xs) :=
  ((dedupe_edit hq xs hf).trans (resolveGo_edit hq pf _ [])).trans (joinSp_edit .sp _)

/-- the automatic-pause placeholder never survives a join -/
theorem joinArray_noFA (pf : Nat) (xs : List Str) (h : ∀ x ∈ xs, AutoOK x) : FA ∉ joinArray pf xs := by
  intro hm
  rcases joinSp_mem hm with ⟨y, hy, hc⟩ | e
  · refine resolveGo_noFA pf _ [] (dedupe_all AutoOK ?_ xs h) y hy hc
    -- an optional word is dropped from a string without placeholder only: `autoStr` holds no `FD`
    rintro prev x y (hx | rfl) hr
    · exact .inl fun hm => hx ((isRepetitive_edit content_none (frontClean_none x) hr).subset hm)
    · rw [isRepetitive_noFD prev autoStr (by decide)] at hr
      cases hr
  · exact absurd e (by decide)

theorem tidy_edit {q : Nat → Bool} (hq : Content q) (s : Str) : Edit (q · = false) (· = 59) s (mergePausesNone (trim s)) :=
  (trim_edit hq.notWs s).trans (mergePausesNone_edit (I := (· = 59)) hq.pause rfl _)

theorem finalize_edit {q : Nat → Bool} (hq : Content q) (s : Str) : Edit (q · = false) (· = 59) s (finalize s) := by
  unfold finalize
  -- what the two `replace` calls and the filter delete is no content
  have hSpFE : ∀ c ∈ [32, FE], q c = false := by simp [hq.notWs 32 rfl, hq.fe]
  have hFE : ∀ c ∈ [FE], q c = false := by simp [hq.fe]
  have hFD : ∀ c, decide (c ≠ FD) = false → q c = false := by simp [hq.fd]
  exact (((replaceS_edit hSpFE (fun _ h => nomatch h) s).trans (replaceS_edit hFE (fun _ h => nomatch h) _)).trans
    (Edit.filter _ hFD _)).trans (tidy_edit hq _)

theorem finalize_filter (q : Nat → Bool) (hq : Content q) (s : Str) : (finalize s).filter q = s.filter q :=
  (finalize_edit hq s).filter_eq (fun _ h => h) fun c (h : c = 59) => h ▸ hq.pause 59 rfl

theorem finalize_mem (s : Str) (c : Nat) (h : c ∈ finalize s) : (c ∈ s ∨ c = 59) ∧ c ≠ FE ∧ c ≠ FD := by
  refine ⟨(finalize_edit content_none s).mem h, ?_⟩
  -- both markers are gone before trimming, and neither trimming nor pause merging writes one
  unfold finalize replaceS at h
  rcases (tidy_edit content_none _).mem h with h | rfl
  · -- `h : c ∈ (replaceAll [FE] [] _ _).filter (· ≠ FD)`: the second `replace` of `finalize` is a filter too
    rw [replaceAll_single_nil FE _ _ (Nat.le_refl _), List.mem_filter, List.mem_filter] at h
    exact ⟨by simpa using h.1.2, by simpa using h.2⟩
  · exact ⟨by decide, by decide⟩

end MC.Speech
