import MC.Props.C12Sep
/-!
C15 / C10: **the rule files in force are those of the language in force**, for every history of preference requests.

`FilesInv (s, f)`: the language whose speech-side files are selected, and the language the style file was looked up in, both equal the
language in force (`curLanguage`).  It holds after `set_rules_dir` and is kept by every request, whatever the order of `Language`,
`LanguageAuto` and `SpeechStyle`.  It is not provable of the library before the repairs dafc07b (switching to `Auto` forgot the old
language) and 13af2b8 (a style chosen under `Auto` was looked up in English).
-/
namespace MC.Props.C15Files
open MC.Prefs MC.Props.C12 MC.Props.C12Sep

/-- needed where `LanguageAuto` takes the old language: `effLanguage` reads the empty text and the sentinel as "not given" -/
def LangOk (s : PState) : Prop := ∀ l, prefToString s "Language" = some l → l ≠ "" ∧ l ≠ noPreference

def FilesInv (s : PState) (f : Files) : Prop := f.filesLang = curLanguage s ∧ f.styleLang = curLanguage s

theorem filesInv_iff (s : PState) (f : Files) : FilesInv s f ↔ f = ⟨curLanguage s, curLanguage s⟩ := by
  cases f
  simp [FilesInv]

/-- the coupling that `MC.Props.C12.frame` leaves open: `LanguageAuto` takes the old language when `Language` is switched to `Auto`
(repair dafc07b) -/
theorem languageAuto_reads (E : Env) (s s' : PState) (n v l : String) (hs : Shape s) (hl : prefToString s "Language" = some l)
    (h : setPreference E s n v = .ok s') (hn : n ≠ "LanguageAuto") :
    prefToString s' "LanguageAuto" =
      if n = "Language" ∧ storedValue n v = "Auto" ∧ l ≠ storedValue n v then some l else prefToString s "LanguageAuto" := by
  rcases setPreference_shape E s s' n v hs h with ⟨hn5, x, rfl⟩ | hsp
  · -- a float or a boolean: a write to the API map, and not for `Language`, which is one of the five
    have hnL : n ≠ "Language" := fun e => hn5 (by rw [e]; decide)
    rw [read_api_write, if_neg (Ne.symm hn), if_neg (fun hh => hnL hh.1)]
  · obtain ⟨d, l', s2, _, rl, _, hr2, hs'⟩ := setStringPref_shape E s s' n _ hs hsp
    obtain rfl : l' = l := Option.some.inj (rl.symm.trans hl)
    have h2 := hr2 "LanguageAuto"
    rw [if_neg (Ne.symm hn)] at h2
    simp only [true_and] at h2
    -- recomputed or not, `s'` reads `LanguageAuto` as `s2` does
    rcases hs' with ⟨rfl, _⟩ | ⟨L, rfl, _⟩
    · exact h2
    · rw [read_setSeparators _ _ _ (by decide) (by decide)]; exact h2

theorem language_reads (E : Env) (s s' : PState) (v : String) (hs : Shape s) (h : setPreference E s "Language" v = .ok s') :
    prefToString s' "Language" = some (storedValue "Language" v) :=
  setStringPref_reads E s s' _ _ _ ((setPreference_shape E s s' _ v hs h).resolve_left fun hh => hh.1 (by decide)) (Or.inl rfl)

theorem langOk_step (E : Env) (s s' : PState) (n v : String) (hs : Shape s) (ho : LangOk s) (h : setPreference E s n v = .ok s') :
    LangOk s' := by
  intro l hl
  by_cases hn : n = "Language"
  · subst hn
    obtain ⟨v', rfl, hnorm, _⟩ := setPreference_cases E s s' "Language" v h
    rw [language_reads E s s' v hs h] at hl
    injection hl with hl
    subst hl
    rcases normLanguage_ok v _ (hnorm (Or.inl rfl)) with e | e
    · rw [e]; exact ⟨by decide, by decide⟩
    · exact e
  · rw [frame E s s' n v "Language" h (fun e => hn e.symm) (by decide)] at hl
    exact ho l hl

theorem filesInv_step (E : Env) (s s' : PState) (f : Files) (n v : String) (hs : Shape s) (ho : LangOk s) (hi : FilesInv s f)
    (h : setPreference E s n v = .ok s') : FilesInv s' (filesStep s n (storedValue n v) f) := by
  obtain ⟨l, _, rl⟩ := hs.text "Language" (by decide)
  unfold FilesInv at hi ⊢
  by_cases eA : n = "LanguageAuto"
  · -- the host gives its language: it is the language in force afterwards, and the files follow unless it was that already
    subst eA
    obtain ⟨hn, _, e1, e2, hlang⟩ := languageAuto_request E s s' v h
    obtain ⟨v', hn', _, _, hcur⟩ := languageAuto_in_force E s s' v hs h
    obtain rfl : storedValue "LanguageAuto" v = v' := Option.some.inj (hn.symm.trans hn')
    unfold filesStep
    rw [hcur]
    split
    · rename_i hsame
      rw [curLanguage_of _ _ hlang, effLanguage_auto _ _ hsame e1 e2] at hi; exact hi
    · exact ⟨rfl, rfl⟩
  · have rla := languageAuto_reads E s s' n v l hs rl h eA
    by_cases eL : n = "Language"
    · subst eL
      have r1 := language_reads E s s' v hs h
      unfold filesStep
      by_cases hsame : l = storedValue "Language" v
      · -- the language that was there: nothing moves
        rw [if_pos (hsame ▸ rl)]
        rw [if_neg (fun hh => hh.2.2 hsame)] at rla
        rw [curLanguage_congr s s' (by rw [r1, rl, hsame]) rla]; exact hi
      · rw [if_neg (fun e => hsame (Option.some.inj (rl.symm.trans e))), if_pos rfl]
        by_cases hv : storedValue "Language" v = "Auto"
        · -- switched to `Auto`: `LanguageAuto` took the old language, which stays in force
          rw [if_pos ⟨rfl, hv, hsame⟩] at rla
          rw [hv] at r1 hsame
          rw [if_pos hv, curLanguage_of _ _ r1, effLanguage_auto _ _ rla (ho l rl).1 (ho l rl).2]
          rw [curLanguage_of _ _ rl, effLanguage_notAuto _ _ hsame] at hi; exact hi
        · -- another explicit language: it is in force and its files are selected
          rw [if_neg hv, curLanguage_of _ _ r1, effLanguage_notAuto _ _ hv]; exact ⟨rfl, rfl⟩
    · -- any other preference leaves the language in force alone; only `SpeechStyle` touches the selection (the style file)
      have hcl : curLanguage s' = curLanguage s :=
        curLanguage_congr s s' (frame E s s' n v "Language" h (fun e => eL e.symm) (by decide))
          (by rw [rla, if_neg (fun hh => eL hh.1)])
      have hsv : storedValue n v = v := by simp [storedValue, eL, eA]
      unfold filesStep
      rw [hcl, hsv]
      split
      · exact hi
      · split
        · exact ⟨hi.1, rfl⟩
        · exact hi

/-- **C15 / C10: after every history of preference requests** (accepted or rejected, in any order, a `SpeechStyle` before, between or
after the language requests) **the language of the selected rule files and of the style-file lookup is the language in force** -/
theorem files_follow_language (E : Env) (ops : List (String × String)) :
    FilesInv (runOpsF E (initState, initFiles) ops).1 (runOpsF E (initState, initFiles) ops).2 := by
  suffices h : ∀ s f, Shape s → LangOk s → FilesInv s f →
      FilesInv (runOpsF E (s, f) ops).1 (runOpsF E (s, f) ops).2 from
    h _ _ shape_init
      (by intro l hl
          cases initState_language.symm.trans hl
          exact ⟨by decide, by decide⟩)
      ⟨curLanguage_init.symm, curLanguage_init.symm⟩
  induction ops with
  | nil => intro s f _ _ hi; exact hi
  | cons op rest ih =>
    intro s f hs ho hi
    obtain ⟨n, v⟩ := op
    simp only [runOpsF]
    split
    · rename_i s' hstep
      exact ih s' _ (shape_step E s s' n v hs hstep) (langOk_step E s s' n v hs ho hstep) (filesInv_step E s s' f n v hs ho hi hstep)
    · exact ih s f hs ho hi

/-- the store component of the combined run is the run of `MC.Props.C12` (so `separators_follow_preferences` speaks about the same states) -/
theorem runOpsF_fst (E : Env) (ops : List (String × String)) (s : PState) (f : Files) : (runOpsF E (s, f) ops).1 = runOps E s ops := by
  induction ops generalizing s f with
  | nil => rfl
  | cons op rest ih =>
    obtain ⟨n, v⟩ := op
    simp only [runOpsF, runOps]
    cases setPreference E s n v <;> exact ih _ _

/-- **route independence** (C10: results depend on the current preferences, not on how they were reached) -/
theorem files_route_independent (E : Env) (ops1 ops2 : List (String × String))
    (hL : prefToString (runOpsF E (initState, initFiles) ops1).1 "Language" = prefToString (runOpsF E (initState, initFiles) ops2).1 "Language")
    (hA : prefToString (runOpsF E (initState, initFiles) ops1).1 "LanguageAuto" = prefToString (runOpsF E (initState, initFiles) ops2).1 "LanguageAuto") :
    (runOpsF E (initState, initFiles) ops1).2 = (runOpsF E (initState, initFiles) ops2).2 := by
  rw [(filesInv_iff _ _).mp (files_follow_language E ops1), (filesInv_iff _ _).mp (files_follow_language E ops2),
    curLanguage_congr _ _ hL hA]

/-- `set_all_files` (a second `set_rules_dir`: re-initialisation, or a repair by re-pointing) selects the files of the language in force -/
def reinit (s : PState) (_ : Files) : Files := ⟨curLanguage s, curLanguage s⟩

theorem reinit_inv (s : PState) (f : Files) : FilesInv s (reinit s f) := ⟨rfl, rfl⟩

theorem reinit_noop (s : PState) (f : Files) (hi : FilesInv s f) : reinit s f = f :=
  ((filesInv_iff s f).mp hi).symm

/-- the order of the three preferences does not matter: style first or last, the style file is looked up in the host's language -/
example : (runOpsF envAll (initState, initFiles) [("Language", "Auto"), ("LanguageAuto", "es"), ("SpeechStyle", "SimpleSpeak")]).2
        = ⟨"es", "es"⟩ ∧
    (runOpsF envAll (initState, initFiles) [("SpeechStyle", "SimpleSpeak"), ("Language", "Auto"), ("LanguageAuto", "es")]).2
        = ⟨"es", "es"⟩ ∧
    (runOpsF envAll (initState, initFiles) [("Language", "id-sg"), ("Language", "Auto"), ("LanguageAuto", "en"), ("SpeechStyle", "ClearSpeak")]).2
        = ⟨"en", "en"⟩ := by decide +kernel

end MC.Props.C15Files
