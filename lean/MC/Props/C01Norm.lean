import MC.Spec.Canon
/-!
# The normal form of the C01 checker

Algebra of `MC.Spec.Canon.expand` (a character-to-string homomorphism) and `collapse` (runs of hyphens), as far as both the
row parser's and the clean-up's conservation theorems need it: `expand` distributes over `++` and erases only white space and
the four invisible operators (`expandChar_nil_iff`); one hyphen more or less inside a run makes no difference to `collapse`,
in any context (`collapse_dd`).  The two namespaces are those under which the C01 check and DESIGN.md name these lemmas.
-/
namespace MC.Props.C01
open MC.Spec.Canon

abbrev Str := List Nat

theorem expand_append (a b : Str) : expand (a ++ b) = expand a ++ expand b := by simp [expand]

theorem ite_ne_nil {p : Prop} [Decidable p] {a b : Str} (ha : a ≠ []) (hb : b ≠ []) : (if p then a else b) ≠ [] := by
  split <;> assumption

/-- what `expand` erases: only white space and the four invisible operators; every other character leaves a trace (each of
the other branches of `expandChar` is a non-empty list) -/
theorem expandChar_nil_iff (c : Nat) : expandChar c = [] ↔ (isWs c || (0x2061 ≤ c && c ≤ 0x2064)) = true := by
  unfold expandChar
  by_cases h : (isWs c || (0x2061 ≤ c && c ≤ 0x2064)) = true
  · rw [if_pos h]
    exact ⟨fun _ => h, fun _ => rfl⟩
  · rw [if_neg h]
    refine ⟨fun he => absurd he ?_, fun h' => absurd h' h⟩
    repeat (first | exact List.cons_ne_nil _ _ | apply ite_ne_nil)

end MC.Props.C01

namespace MC.Props.C01Clean
open MC.Spec.Canon

abbrev Str := List Nat

theorem collapse_cons_ne (c : Nat) (r : Str) (h : c ≠ 45 ∨ r.head? ≠ some 45) : collapse (c :: r) = c :: collapse r := by
  rw [collapse.eq_def]
  split
  next r' heq =>
    -- the first arm of `collapse`: two hyphens in front
    injection heq with h1 h2
    subst h1 h2
    rcases h with h | h <;> exact absurd rfl h
  next c' r' _ heq => injection heq with h1 h2; subst h1 h2; rfl
  next heq => cases heq

theorem collapse_dd_cons (r : Str) : collapse (45 :: 45 :: r) = collapse (45 :: r) := by
  rw [collapse]

/-- one hyphen more or less inside a run of hyphens does not change the collapsed text, in any context -/
theorem collapse_dd : ∀ (u v : Str), collapse (u ++ 45 :: 45 :: v) = collapse (u ++ 45 :: v)
  | [], v => collapse_dd_cons v
  | [c], v => by
    simp only [List.cons_append, List.nil_append]
    by_cases hc : c = 45
    · subst hc; rw [collapse_dd_cons, collapse_dd_cons]
    · rw [collapse_cons_ne c _ (.inl hc), collapse_cons_ne c _ (.inl hc), collapse_dd_cons]
  | c :: d :: u, v => by
    have ih := collapse_dd (d :: u) v
    simp only [List.cons_append] at ih ⊢
    -- unless both `c` and `d` are hyphens, `c` stays and the rest is the induction hypothesis
    have hne : c ≠ 45 ∨ d ≠ 45 → ∀ w, collapse (c :: d :: w) = c :: collapse (d :: w) := fun h w =>
      collapse_cons_ne c _ (h.imp_right fun hd e => hd (Option.some.inj e))
    by_cases hc : c = 45
    · by_cases hd : d = 45
      · subst hc hd; rw [collapse_dd_cons, collapse_dd_cons, ih]
      · rw [hne (.inr hd), hne (.inr hd), ih]
    · rw [hne (.inl hc), hne (.inl hc), ih]

end MC.Props.C01Clean
