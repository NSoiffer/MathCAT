import MC.Props.C01Norm
import MC.Props.C03
/-!
# C01 — canonicalization never loses or invents visible content

The property is decided on the implementation by the Lean checker `MC.Spec.Canon.conserves`.  Proved here, for every input:
the re-bracketing pass (`canonicalize_mrows_in_mrow`, modelled in `MC.Rows`) conserves the visible text of a row — it only adds
invisible times, which the checker's normalisation erases; and `collapse` only shortens runs of hyphens, so that the
normalisation cannot hide a loss.  Of `clean_mathml` only the structural skeleton `MC.Clean` is modelled (`MC.Props.C01Clean`);
its sibling-dependent arms, listed in `MC/Model/Clean.lean`, are not.
-/
namespace MC.Props.C01
open MC.Xml (Node s)
open MC.Spec.Canon
open MC.Rows (T Tok parseRow)
open MC.Props.C03

mutual
/-- a parsed row as the XML tree `set_mathml` returns -/
def toNode : T → Node
  | .operand t => .elem [109, 105] [] [.text t]            -- mi
  | .op t _ => .elem [109, 111] [] [.text t]               -- mo
  | .row ks => .elem [109, 114, 111, 119] [] (toNodeL ks)  -- mrow
def toNodeL : List T → List Node
  | [] => []
  | k :: ks => toNode k :: toNodeL ks
end

def atomsText (l : List Atom) : Str := l.flatMap (fun a => a.2.1)

/-- `visibleOut` reads the children of `mmultiscripts` in another order -/
theorem ne_mmultiscripts : ([109, 105] : Str) ≠ s "mmultiscripts" ∧ ([109, 111] : Str) ≠ s "mmultiscripts" ∧
    ([109, 114, 111, 119] : Str) ≠ s "mmultiscripts" := by decide

mutual
theorem visibleOut_toNode (t : T) : visibleOut (toNode t) = atomsText (yieldT t) := by
  cases t with
  | operand x => simp [toNode, visibleOut, visibleOutL, ne_mmultiscripts, atomsText]
  | op x a => simp [toNode, visibleOut, visibleOutL, ne_mmultiscripts, atomsText]
  | row ks =>
    simp only [toNode, visibleOut, ne_mmultiscripts, if_false, yield_row]
    exact visibleOutL_toNodeL ks
theorem visibleOutL_toNodeL (ts : List T) : visibleOutL (toNodeL ts) = atomsText (yieldL ts) := by
  cases ts with
  | nil => simp [toNodeL, visibleOutL, atomsText]
  | cons k ks =>
    simp only [toNodeL, visibleOutL, yieldL_cons]
    rw [visibleOut_toNode k, visibleOutL_toNodeL ks]
    simp [atomsText]
end

theorem expand_vis (l : List Atom) : expand (atomsText (vis l)) = expand (atomsText l) := by
  have htimes : expand timesAtom.2.1 = [] := by decide
  -- both sides are a `flatMap` over the atoms, of a function that is `[]` at the one atom `vis` drops
  simp only [expand, atomsText, List.flatMap_assoc, vis] at htimes ⊢
  induction l with
  | nil => rfl
  | cons a as ih =>
    rw [List.flatMap_cons, ← ih]
    by_cases h : a = timesAtom
    · rw [List.filter_cons_of_neg (by simp [h]), h, htimes, List.nil_append]
    · rw [List.filter_cons_of_pos (by simp [h]), List.flatMap_cons]

def tokText : Tok → Str
  | .operand t => t
  | .mo t => t

theorem atomsText_map (toks : List Tok) : atomsText (toks.map tokAtom) = toks.flatMap tokText := by
  induction toks with
  | nil => rfl
  | cons k ks ih =>
    simp only [List.map_cons, List.flatMap_cons, atomsText] at *
    rw [ih]; cases k <;> rfl

/-- **C01 for the re-bracketing pass**: for ANY row of tokens on which the row parser returns a tree, the visible text of
that tree, normalised, is the normalised concatenation of the tokens: re-bracketing loses, invents and reorders nothing -/
theorem row_conserves (toks : List Tok) (t : T) (h : parseRow toks = .ok t) :
    norm (visibleOut (toNode t)) = norm (toks.flatMap tokText) := by
  have hy := parseRow_yield toks t h
  unfold norm
  rw [visibleOut_toNode, ← expand_vis, hy, atomsText_map]

/-- `collapse` only shortens: its result is a sublist of its input (it never invents a character) -/
theorem collapse_sublist (t : Str) : (collapse t).Sublist t := by
  fun_induction collapse t with
  | case1 r ih => exact List.Sublist.trans ih (List.Sublist.cons _ (List.Sublist.refl _))
  | case2 c r _ ih => exact List.Sublist.cons_cons _ ih
  | case3 => exact List.Sublist.refl _

/-- ... and it keeps every character that is not a hyphen -/
theorem collapse_filter (t : Str) : (collapse t).filter (· ≠ 45) = t.filter (· ≠ 45) := by
  fun_induction collapse t with
  | case1 r ih => rw [ih]; simp
  | case2 c r _ ih => simp only [List.filter_cons]; rw [ih]
  | case3 => rfl

/-- the checker on two concrete pairs: an `mfenced` written out with its fences and separator is accepted, a lost script is not -/
example : conserves
    (.elem (s "math") [] [.elem (s "mfenced") [] [.elem (s "mi") [] [.text (s "x")], .elem (s "mn") [] [.text (s "1")]]])
    (.elem (s "math") [] [.elem (s "mrow") [] [.elem (s "mo") [] [.text (s "(")], .elem (s "mi") [] [.text (s "x")],
        .elem (s "mo") [] [.text (s ",")], .elem (s "mn") [] [.text (s "1")], .elem (s "mo") [] [.text (s ")")]]]) = true := by decide +kernel
example : conserves
    (.elem (s "math") [] [.elem (s "msubsup") [] [.elem (s "mi") [] [.text (s "x")], .elem (s "mrow") [] [], .elem (s "mn") [] [.text (s "2")]]])
    (.elem (s "math") [] []) = false := by decide +kernel

end MC.Props.C01
