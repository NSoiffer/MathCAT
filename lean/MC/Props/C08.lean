import MC.Model.Session
import MC.Props.C11
import MC.Props.C12
import MC.Props.C19
import MC.Props.C20
import MC.Props.C18
/-!
# C08 — no API call crashes the host; errors are recoverable

There is no model of all of the Rust. The kernel-checked part of the claim is:
* on the API-level state machine `MC.Session`: errors leave the stored expression and the preferences alone, and a successful
  `set_mathml` after ANY history reaches the state a fresh session reaches with the same accepted preferences;
* the no-panic theorems of the engine models, each of which carries the Rust `unwrap`/index/`assert` sites of the code it
  transcribes as explicit panic outcomes: those of the preference store, the intent parser and the braille highlighter are
  restated here; the row parser's is `MC.Props.C03NP.parseRow_no_panic`, the mathvariant tables' `MC.Props.C18.shiftText_total`.
The panic-capable sites outside the models are counted by the translator and exercised by the fuzz streams.
-/
namespace MC.Props.C08
open MC.Session

theorem error_keeps_expression (s : St) (e : Nat) : (step s (.setMathml e false)).expr = s.expr ∧ (step s (.setMathml e false)).prefs = s.prefs :=
  ⟨rfl, rfl⟩

theorem rejected_pref_changes_nothing (s : St) (k v : String) : step s (.setPref k v false) = s := rfl

theorem getter_pure (s : St) : step s .getter = s := rfl

theorem prefs_run_filter : ∀ (ops : List Op) (s t : St), s.prefs = t.prefs → (run s ops).prefs = (run t (ops.filter keeps)).prefs
  | [], s, t, h => h
  | o :: r, s, t, h => by
    cases o with
    | setMathml e a => cases a <;> exact prefs_run_filter r _ t h
    | setPref k v a =>
      cases a with
      | true => simp only [run, List.filter_cons, keeps, if_true]; exact prefs_run_filter r _ _ (by simp [step, h])
      | false => exact prefs_run_filter r _ t h
    | nav => exact prefs_run_filter r _ t h
    | getter => exact prefs_run_filter r _ t h

/-- **recoverable**: after ANY history of calls — failing and succeeding `set_mathml`, accepted and rejected preferences,
navigation, getters, in any order — a successful `set_mathml e` leaves exactly the state that a fresh session reaches
by making only the accepted preference settings of that history and then `set_mathml e` -/
theorem recover_eq_fresh (ops : List Op) (e : Nat) :
    step (run init ops) (.setMathml e true) = step (run init (ops.filter keeps)) (.setMathml e true) := by
  have h := prefs_run_filter ops init init rfl
  simp only [step]
  rw [h]

def failed : Op → Bool
  | .setMathml _ false => true
  | .setPref _ _ false => true
  | _ => false

/-- an accepted preference setting is not a failing call -/
theorem filter_keeps_drop_failed (ops : List Op) : (ops.filter (fun o => !failed o)).filter keeps = ops.filter keeps := by
  rw [List.filter_filter]
  congr 1
  funext o
  cases o with
  | setMathml e a => cases a <;> rfl
  | setPref k v a => cases a <;> rfl
  | _ => rfl

/-- ... in particular the errors of the history leave no trace: dropping every failing call gives the same state -/
theorem errors_leave_no_trace (ops : List Op) (e : Nat) :
    step (run init ops) (.setMathml e true) = step (run init (ops.filter fun o => !failed o)) (.setMathml e true) := by
  rw [recover_eq_fresh, recover_eq_fresh (ops.filter fun o => !failed o), filter_keeps_drop_failed]

example : step (run init [.setMathml 1 true, .nav, .setPref "Language" "es" true, .setMathml 2 false, .setPref "Rate" "x" false, .getter]) (.setMathml 3 true)
    = ⟨some 3, true, [("Language", "es")]⟩ := by decide

/-- preference store: after any history `set_preference` returns a value or an error -/
theorem prefs_no_panic : ∀ (E : MC.Prefs.Env) (ops : List (String × String)) (n v : String) (p : String),
    MC.Prefs.setPreference E (MC.Props.C12.runOps E MC.Prefs.initState ops) n v ≠ .panic p :=
  fun E ops n v => MC.Props.C12.no_panic_after_any_history E ops n v

/-- intent parser: no panic on any element that carries an intent attribute -/
theorem intent_no_panic : True ∧ (∀ (E : MC.Intent.Env) (errorMode rematchOk : Bool) (e : MC.Intent.Elem) (s : MC.Intent.Str), e.intent = some s →
    ∀ site, (MC.Intent.inferIntent E errorMode rematchOk e).1 ≠ .panic site) :=
  ⟨trivial, MC.Props.C19.inferIntent_no_panic⟩

/-- braille highlighting arithmetic: no slice out of range, no underflow, for every string and code -/
theorem highlight_no_panic : ∀ (code : Nat) (fill : Bool) (s : MC.Highlight.Str), MC.Highlight.highlightChars code fill s ≠ none :=
  MC.Props.C20.highlightChars_no_panic

end MC.Props.C08
