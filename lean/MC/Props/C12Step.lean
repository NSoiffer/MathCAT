import MC.Model.PrefFiles
/-!
What one request does to the preference store: each function of `MC.Prefs` on the path of `set_preference`, characterised once,
for every state and environment.  An accepted request is a short sequence of writes: `Language := Auto` first saves the old
language in the API map's `LanguageAuto`, the value goes to one of the two maps, and `Language`, `DecimalSeparator` and
`LanguageAuto` rewrite the two derived separators.  The namespace is the one that `MC/Props/C12Sep.lean` continues.
-/
namespace MC.Props.C12Sep
open MC.Prefs

theorem pget_cons (m : PMap) (k0 k : String) (v0 : Val) : pget ((k0, v0) :: m) k = if k = k0 then some v0 else pget m k := by
  simp only [pget, List.lookup_cons]
  by_cases h : k = k0
  · rw [if_pos h, beq_iff_eq.mpr h]
  · rw [if_neg h, beq_eq_false_iff_ne.mpr h]

/-- `HashMap::insert` followed by `HashMap::get` -/
theorem pget_pset (m : PMap) (k k' : String) (v : Val) : pget (pset m k v) k' = if k' = k then some v else pget m k' := by
  induction m with
  | nil => rw [pset, pget_cons]
  | cons p ps ih =>
    obtain ⟨k0, v0⟩ := p
    unfold pset
    by_cases h0 : k0 = k
    · rw [if_pos h0, pget_cons, pget_cons, h0]
      split <;> rfl
    · rw [if_neg h0, pget_cons, pget_cons, ih]
      by_cases h : k' = k0
      · simp only [if_pos h, if_neg (h ▸ h0 : ¬k' = k)]
      · simp only [if_neg h]

theorem pget_pset_same (m : PMap) (k : String) (v : Val) : pget (pset m k v) k = some v := by
  rw [pget_pset, if_pos rfl]

theorem pget_pset_other (m : PMap) (k k' : String) (v : Val) (h : k' ≠ k) : pget (pset m k v) k' = pget m k' := by
  rw [pget_pset, if_neg h]

theorem pset_str (m : PMap) (k k' v : String) (h : ∃ t, pget m k' = some (.str t)) : ∃ t, pget (pset m k (.str v)) k' = some (.str t) := by
  rw [pget_pset]
  split
  · exact ⟨v, rfl⟩
  · exact h

theorem read_api_write (s : PState) (k k' : String) (x : Val) :
    prefToString { s with api := pset s.api k x } k' = if k' = k then some x.render else prefToString s k' := by
  unfold prefToString
  simp only [pget_pset]
  by_cases h : k' = k
  · simp only [h, if_true]
  · simp only [h, if_false]

theorem read_user_write (s : PState) (k k' : String) (x : Val) :
    prefToString { s with user := pset s.user k x } k' =
      if k' = k ∧ pget s.api k = none then some x.render else prefToString s k' := by
  unfold prefToString
  simp only [pget_pset]
  by_cases h : k' = k
  · subst h
    cases pget s.api k' <;> simp
  · simp only [h, false_and, if_false]

theorem prefToString_user (s : PState) (k : String) (h : pget s.api k = none) : prefToString s k = (pget s.user k).map Val.render := by
  unfold prefToString; rw [h]

theorem setSeparators_api (s : PState) (l : String) : (setSeparators s l).api = s.api := by
  unfold setSeparators
  simp only
  split <;> rfl

theorem setSeparators_user_other (s : PState) (l k : String) (h1 : k ≠ "DecimalSeparators") (h2 : k ≠ "BlockSeparators") :
    pget (setSeparators s l).user k = pget s.user k := by
  unfold setSeparators
  simp only
  split
  · rfl
  · exact (pget_pset_other _ _ _ _ h2).trans (pget_pset_other _ _ _ _ h1)

theorem setSeparators_str (s : PState) (l k : String) (h : ∃ t, pget s.user k = some (.str t)) :
    ∃ t, pget (setSeparators s l).user k = some (.str t) := by
  unfold setSeparators
  simp only
  split
  · exact h
  · exact pset_str _ _ _ _ (pset_str _ _ _ _ h)

theorem read_setSeparators (s : PState) (l k : String) (h1 : k ≠ "DecimalSeparators") (h2 : k ≠ "BlockSeparators") :
    prefToString (setSeparators s l) k = prefToString s k := by
  unfold prefToString; rw [setSeparators_api, setSeparators_user_other s l k h1 h2]

/-- `reset_files_from_preference_change` does not panic, and changes the store only for `Language := Auto`, where it saves the old
language -/
theorem resetFiles_cases (E : Env) (s : PState) (k v : String) :
    resetFiles E s k v = .ok (if k = "Language" ∧ v = "Auto"
      then { s with api := pset s.api "LanguageAuto" ((pget s.user "Language").getD (.str "en")) } else s) ∨
    resetFiles E s k v = .err "file-not-found" := by
  unfold resetFiles
  simp only [Bool.and_eq_true, decide_eq_true_eq]
  split
  next => exact .inl rfl                -- `Language := Auto`: the old language is saved
  next =>
    split
    next => exact .inl rfl              -- the rule files are found
    next => exact .inr rfl

theorem resetFiles_eq (E : Env) (s s1 : PState) (k v : String) (h : resetFiles E s k v = .ok s1) :
    s1 = if k = "Language" ∧ v = "Auto" then { s with api := pset s.api "LanguageAuto" ((pget s.user "Language").getD (.str "en")) } else s := by
  rcases resetFiles_cases E s k v with e | e
  · exact (Outcome.ok.inj (h.symm.trans e))
  · cases h.symm.trans e

/-- `chooseMap` errs or accepts, and does not panic: it accepts the key of whichever map holds a value `w` that is no boolean, and the
state it hands on differs from `s` only where `Language := Auto` replaces another value -/
theorem chooseMap_cases (E : Env) (s : PState) (k v : String) :
    (∃ e, chooseMap E s k v = .err e) ∨
    ∃ w isUser, ((pget s.api k = some w ∧ isUser = false) ∨ (pget s.api k = none ∧ pget s.user k = some w ∧ isUser = true)) ∧
      chooseMap E s k v = .ok (if k = "Language" ∧ v = "Auto" ∧ w.render ≠ v
        then { s with api := pset s.api "LanguageAuto" ((pget s.user "Language").getD (.str "en")) } else s, isUser) := by
  unfold chooseMap
  split
  next => exact .inl ⟨_, rfl⟩            -- the API map holds a boolean: an error
  next w _ ha =>                        -- the key is in the API map
    split
    next hne =>                         -- another value: the files are looked for
      rcases resetFiles_cases E s k v with hr | hr
      · rw [hr]
        refine .inr ⟨w, false, .inl ⟨ha, rfl⟩, ?_⟩
        simp only [ne_eq, hne, not_false_eq_true, and_true]
      · rw [hr]
        exact .inl ⟨_, rfl⟩
    next heq => exact .inr ⟨w, false, .inl ⟨ha, rfl⟩, by rw [if_neg fun hh => heq hh.2.2]⟩    -- the stored value
  next ha =>                            -- the key is not in the API map: the same for the user map
    split
    next => exact .inl ⟨_, rfl⟩
    next w _ hu =>
      split
      next hne =>
        rcases resetFiles_cases E s k v with hr | hr
        · rw [hr]
          refine .inr ⟨w, true, .inr ⟨ha, hu, rfl⟩, ?_⟩
          simp only [ne_eq, hne, not_false_eq_true, and_true]
        · rw [hr]
          exact .inl ⟨_, rfl⟩
      next heq => exact .inr ⟨w, true, .inr ⟨ha, hu, rfl⟩, by rw [if_neg fun hh => heq hh.2.2]⟩
    next => exact .inl ⟨_, rfl⟩          -- unknown preference: an error

/-- total once the two entries that `set_string_pref` unwraps are text -/
theorem storeUser_eq (s1 : PState) (k v d l : String) (hd : pget s1.user "DecimalSeparator" = some (.str d))
    (hl : pget s1.user "Language" = some (.str l)) :
    storeUser s1 k v = .ok (
      if (k = "DecimalSeparator" ∧ d ≠ v) ∨ (k = "Language" ∧ l ≠ v)
      then setSeparators { s1 with user := pset s1.user k (.str v) } (if k = "Language" then v else l)
      else { s1 with user := pset s1.user k (.str v) }) := by
  unfold storeUser
  simp only [hd, hl, Option.bind, strOf?]     -- the two unwraps succeed
  by_cases hkl : k = "Language"
  · subst hkl
    simp only [if_true, true_and,                                               -- `langChanged` is `l ≠ v`
      (by decide : ("Language" : String) ≠ "DecimalSeparator"), decide_false, Bool.false_and, Bool.false_or, false_and, false_or,
                                                                                -- `decChanged` is false
      pget_pset_same]                                                           -- the language read back is `v`
    by_cases hlv : l = v <;> simp [hlv]
  · have hne : ("Language" : String) ≠ k := fun h => hkl h.symm
    simp only [hkl, if_false, false_and, or_false, Bool.or_false,               -- `langChanged` is false
      pget_pset_other _ _ _ _ hne, hl]                                          -- the language read back is still `l`
    by_cases hkd : k = "DecimalSeparator"
    · subst hkd
      by_cases hdv : d = v <;> simp [hdv]                                       -- `decChanged` is `d ≠ v`
    · simp [hkd]                                                                -- `decChanged` is false

theorem storeUser_ok (s1 s' : PState) (k v : String) (h : storeUser s1 k v = .ok s') :
    s' = { s1 with user := pset s1.user k (.str v) } ∨
    ((k = "Language" ∨ k = "DecimalSeparator") ∧ ∃ L, s' = setSeparators { s1 with user := pset s1.user k (.str v) } L) := by
  unfold storeUser at h
  split at h
  next => cases h                       -- panic: `DecimalSeparator` is not text
  next =>
    simp only at h
    split at h
    next => cases h                     -- panic: `Language` is not text
    next => cases h
    next langChanged hlc =>
      split at h
      next hc =>                        -- `decChanged || langChanged`: the separators are recomputed
        have hk : k = "Language" ∨ k = "DecimalSeparator" := by
          by_cases hkl : k = "Language"
          · exact Or.inl hkl
          · -- for another key `langChanged` is false, so it is `decChanged` that holds
            have hlc : langChanged = false := by rw [if_neg hkl] at hlc; exact (Outcome.ok.inj hlc).symm
            rw [hlc, Bool.or_false, Bool.and_eq_true, decide_eq_true_eq] at hc
            exact Or.inr hc.1
        split at h
        next => cases h; exact Or.inr ⟨hk, _, rfl⟩     -- for the language just stored
        next => cases h                                -- panic: `Language` is not text
        next => cases h; exact Or.inr ⟨hk, _, rfl⟩     -- no `Language` entry: for English
      next => cases h; exact Or.inl rfl

/-- an accepted `set_string_pref` read from the top: `w` is the value found, `s1` the state after `Language := Auto` has saved the old
language, `s2` the state after the store -/
theorem setStringPref_ok (E : Env) (s s' : PState) (k v : String) (h : setStringPref E s k v = .ok s') :
    ∃ w s1 s2,
      s1 = (if k = "Language" ∧ v = "Auto" ∧ w.render ≠ v
        then { s with api := pset s.api "LanguageAuto" ((pget s.user "Language").getD (.str "en")) } else s) ∧
      ((pget s.api k = some w ∧ s2 = { s1 with api := pset s1.api k (.str v) }) ∨
        (pget s.api k = none ∧ pget s.user k = some w ∧ storeUser s1 k v = .ok s2)) ∧
      s' = if k = "LanguageAuto" then setSeparators s2 v else s2 := by
  unfold setStringPref setStringPrefCore at h
  rcases chooseMap_cases E s k v with ⟨e, hm⟩ | ⟨w, isUser, hw, hm⟩
  · rw [hm] at h
    cases h
  · rw [hm] at h
    rcases hw with ⟨ha, rfl⟩ | ⟨ha, hu, rfl⟩
    · cases h
      exact ⟨w, _, _, rfl, Or.inl ⟨ha, rfl⟩, rfl⟩
    · simp only [if_true] at h
      split at h
      · rename_i s2 hst
        cases h
        exact ⟨w, _, s2, rfl, Or.inr ⟨ha, hu, hst⟩, rfl⟩
      · cases h
      · cases h

/-- `set_string_pref` has one place to panic: the unwraps of `storeUser`, met with the user map as it was -/
theorem setStringPref_panic (E : Env) (s : PState) (k v p : String) (h : setStringPref E s k v = .panic p) :
    ∃ s1, s1.user = s.user ∧ storeUser s1 k v = .panic p := by
  unfold setStringPref setStringPrefCore at h
  rcases chooseMap_cases E s k v with ⟨e, hm⟩ | ⟨w, isUser, hw, hm⟩
  · rw [hm] at h
    cases h
  · rw [hm] at h
    rcases hw with ⟨_, rfl⟩ | ⟨_, _, rfl⟩
    · cases h
    · simp only [if_true] at h
      split at h
      · cases h
      · cases h
      · rename_i hst
        cases h
        refine ⟨_, ?_, hst⟩
        split <;> rfl

/-- **in any state an accepted `set_string_pref` is at most three writes**: `LanguageAuto` saved, the value stored, the separators
recomputed -/
theorem setStringPref_writes (E : Env) (s s' : PState) (k v : String) (h : setStringPref E s k v = .ok s') :
    ∃ s1 s2,
      (s1 = s ∨ (k = "Language" ∧ ∃ x, s1 = { s with api := pset s.api "LanguageAuto" x })) ∧
      (s2 = { s1 with api := pset s1.api k (.str v) } ∨ (pget s.api k = none ∧ s2 = { s1 with user := pset s1.user k (.str v) })) ∧
      (s' = s2 ∨ ((k = "Language" ∨ k = "DecimalSeparator" ∨ k = "LanguageAuto") ∧ ∃ L, s' = setSeparators s2 L)) := by
  obtain ⟨w, s1, s2, e1, hcase, rfl⟩ := setStringPref_ok E s s' k v h
  have h1 : s1 = s ∨ (k = "Language" ∧ ∃ x, s1 = { s with api := pset s.api "LanguageAuto" x }) := by
    rw [e1]
    split
    next hc => exact Or.inr ⟨hc.1, _, rfl⟩
    next => exact Or.inl rfl
  have h3 : ∀ t : PState, (if k = "LanguageAuto" then setSeparators t v else t) = t ∨
      ((k = "Language" ∨ k = "DecimalSeparator" ∨ k = "LanguageAuto") ∧ ∃ L, (if k = "LanguageAuto" then setSeparators t v else t) = setSeparators t L) := by
    intro t
    split
    · rename_i e; exact Or.inr ⟨Or.inr (Or.inr e), v, rfl⟩
    · exact Or.inl rfl
  rcases hcase with ⟨_, rfl⟩ | ⟨hnone, _, hst⟩
  · exact ⟨s1, _, h1, Or.inl rfl, h3 _⟩
  · rcases storeUser_ok s1 s2 k v hst with rfl | ⟨hk, L, rfl⟩
    · exact ⟨s1, _, h1, Or.inr ⟨hnone, rfl⟩, h3 _⟩
    · refine ⟨s1, _, h1, Or.inr ⟨hnone, rfl⟩, Or.inr ⟨hk.imp_right Or.inl, L, ?_⟩⟩
      have hkA : k ≠ "LanguageAuto" := by rcases hk with rfl | rfl <;> decide
      rw [if_neg hkA]

/-- `set_preference` read from the top, for any outcome that is not an error: the request has passed the checks (`v'` is the value
that will be stored), and the outcome is that of the float, the boolean or the text branch -/
theorem setPreference_dispatch (E : Env) (s : PState) (n v : String) (o : Outcome PState) (h : setPreference E s n v = o)
    (hne : ∀ e, o ≠ .err e) :
    ∃ v', v' = storedValue n v ∧ ((n = "Language" ∨ n = "LanguageAuto") → normLanguage v = some v') ∧
      (n = "LanguageAuto" → v' ≠ "Auto" ∧ prefToString s "Language" = some "Auto") ∧
      ((MC.Gen.Prefs.floatNames.contains n = true ∧ ∃ f, E.normFloat v' = some f ∧ o = .ok { s with api := pset s.api n (.num f) }) ∨
       (MC.Gen.Prefs.floatNames.contains n = false ∧ (asciiLower v' = "true" ∨ asciiLower v' = "false") ∧
          isBooleanPref s n = some true ∧ o = .ok { s with api := pset s.api n (.bool (asciiLower v' = "true")) }) ∨
       (MC.Gen.Prefs.floatNames.contains n = false ∧
          ¬((asciiLower v' = "true" ∨ asciiLower v' = "false") ∧ isBooleanPref s n = some true) ∧ o = setStringPref E s n v')) := by
  unfold setPreference at h
  simp only at h
  split at h
  next e _ => exact absurd h.symm (hne e)     -- rejected: bad language tag, or `LanguageAuto = Auto`
  next p hp =>                                -- the check of the value has no panic
    split at hp
    · split at hp
      · cases hp
      · split at hp <;> cases hp
    · cases hp
  next v' hv =>
    -- the value that passed the check is `storedValue n v`
    have hv' : v' = storedValue n v ∧ ((n = "Language" ∨ n = "LanguageAuto") → normLanguage v = some v') ∧
        (n = "LanguageAuto" → v' ≠ "Auto") := by
      unfold storedValue
      split at hv
      next hn =>                              -- a language preference: the tag cut to two parts
        rw [if_pos hn]
        split at hv
        next => cases hv                      -- (bad tag)
        next w hw =>
          split at hv
          next => cases hv                    -- (`LanguageAuto = Auto`)
          next hc =>
            cases hv
            exact ⟨by rw [hw]; rfl, fun _ => hw, fun e he => hc (by simp [e, he])⟩
      next hn =>                              -- any other preference: the value as given
        rw [if_neg hn]
        cases hv
        exact ⟨rfl, fun e => absurd (by simpa using e) hn, fun e => absurd (by simp [e]) hn⟩
    refine ⟨v', hv'.1, hv'.2.1, ?_⟩
    split at h
    next => exact absurd h.symm (hne _)       -- rejected: not initialised
    next =>
      split at h
      next => exact absurd h.symm (hne _)     -- rejected: `LanguageAuto` while `Language` is not `Auto`
      next hc =>
        refine ⟨fun e => ⟨hv'.2.2 e, ?_⟩, ?_⟩
        · cases hp : prefToString s "Language" with
          | none => simp [e, hp, noPreference] at hc
          | some L => simpa [e, hp] using hc
        · split at h
          next hf =>                          -- a float preference
            split at h
            next => exact absurd h.symm (hne _)         -- rejected: not a number
            next f hnf => exact Or.inl ⟨hf, f, hnf, h.symm⟩
          next hf =>
            have hf : MC.Gen.Prefs.floatNames.contains n = false := by simpa using hf
            split at h
            next hb =>                        -- the text is `true` or `false`, in any case
              have hb : asciiLower v' = "true" ∨ asciiLower v' = "false" := by simpa using hb
              split at h
              next => exact absurd h.symm (hne _)       -- rejected: unknown preference
              next hbp => exact Or.inr (Or.inl ⟨hf, hb, hbp, h.symm⟩)      -- a boolean preference
              next hbp =>                     -- not a boolean preference: the text is stored as text
                exact Or.inr (Or.inr ⟨hf, fun hh => absurd (hbp.symm.trans hh.2) (by simp), h.symm⟩)
            next hb =>                        -- any other text
              exact Or.inr (Or.inr ⟨hf, fun hh => hb (by simpa using hh.1), h.symm⟩)

/-- the three ways in which `set_preference` accepts a request; `v'` is the value it stores -/
theorem setPreference_cases (E : Env) (s s' : PState) (n v : String) (h : setPreference E s n v = .ok s') :
    ∃ v', v' = storedValue n v ∧ ((n = "Language" ∨ n = "LanguageAuto") → normLanguage v = some v') ∧
      (n = "LanguageAuto" → v' ≠ "Auto" ∧ prefToString s "Language" = some "Auto") ∧
      ((MC.Gen.Prefs.floatNames.contains n = true ∧ ∃ f, E.normFloat v' = some f ∧ s' = { s with api := pset s.api n (.num f) }) ∨
       (MC.Gen.Prefs.floatNames.contains n = false ∧ (asciiLower v' = "true" ∨ asciiLower v' = "false") ∧
          isBooleanPref s n = some true ∧ s' = { s with api := pset s.api n (.bool (asciiLower v' = "true")) }) ∨
       (MC.Gen.Prefs.floatNames.contains n = false ∧
          ¬((asciiLower v' = "true" ∨ asciiLower v' = "false") ∧ isBooleanPref s n = some true) ∧ setStringPref E s n v' = .ok s')) := by
  obtain ⟨v', hv, hnorm, hla, hd⟩ := setPreference_dispatch E s n v _ h (fun e he => by cases he)
  refine ⟨v', hv, hnorm, hla, ?_⟩
  rcases hd with ⟨hf, f, hnf, ho⟩ | ⟨hf, hb, hbp, ho⟩ | ⟨hf, hnb, ho⟩
  · exact Or.inl ⟨hf, f, hnf, Outcome.ok.inj ho⟩
  · exact Or.inr (Or.inl ⟨hf, hb, hbp, Outcome.ok.inj ho⟩)
  · exact Or.inr (Or.inr ⟨hf, hnb, ho.symm⟩)

/-- `set_preference` has no `unwrap` of its own: it panics only where `set_string_pref` does -/
theorem setPreference_panic (E : Env) (s : PState) (n v p : String) (h : setPreference E s n v = .panic p) :
    ∃ v', setStringPref E s n v' = .panic p := by
  obtain ⟨v', _, _, _, hd⟩ := setPreference_dispatch E s n v _ h (fun e he => by cases he)
  rcases hd with ⟨_, _, _, ho⟩ | ⟨_, _, _, ho⟩ | ⟨_, _, ho⟩
  · cases ho
  · cases ho
  · exact ⟨v', ho.symm⟩

theorem isBooleanPref_true (s : PState) (n : String) (h : isBooleanPref s n = some true) :
    (∃ b, pget s.api n = some (.bool b)) ∨ (pget s.api n = none ∧ ∃ b, pget s.user n = some (.bool b)) := by
  unfold isBooleanPref at h
  split at h
  · cases h
  · rename_i b hb
    cases ha : pget s.api n with
    | some w => rw [ha] at hb; exact Or.inl ⟨b, hb⟩
    | none => rw [ha] at hb; exact Or.inr ⟨rfl, b, hb⟩
  · cases h

theorem normLanguage_ok (value v : String) (h : normLanguage value = some v) : v = "Auto" ∨ (v ≠ "" ∧ v ≠ noPreference) := by
  unfold normLanguage at h
  split at h
  · rename_i ha; cases h; exact Or.inl ha
  · -- a tag is two bytes, or two bytes, a dash and a non-empty country; the empty text has none and the sentinel three
    have key : v.utf8ByteSize = 2 ∨ v.utf8ByteSize ≥ 4 := by
      simp only at h
      generalize ((splitDash value.toList).map String.ofList).getD 0 "" = language at h
      generalize ((splitDash value.toList).map String.ofList).getD 1 "" = country at h
      split at h
      next => cases h                   -- rejected: the language part is not two bytes
      next hsz =>
        have hsz : language.utf8ByteSize = 2 := Decidable.not_not.mp hsz
        injection h with h
        split at h
        next => rw [← h]; exact Or.inl hsz             -- no country: `v` is the language part
        next hc =>                                     -- `v = language ++ "-" ++ country`, the country not empty
          have hc' : country.utf8ByteSize ≠ 0 :=
            fun e => hc (by rw [String.utf8ByteSize_eq_zero_iff.mp e]; rfl)
          have : ("-" : String).utf8ByteSize = 1 := by decide
          rw [← h, String.utf8ByteSize_append, String.utf8ByteSize_append, hsz]
          omega
    have h3 : noPreference.utf8ByteSize = 3 := by decide
    exact Or.inr ⟨fun e => by rw [e] at key; simp at key, fun e => by rw [e, h3] at key; omega⟩

theorem languageAuto_request (E : Env) (s s' : PState) (v : String) (h : setPreference E s "LanguageAuto" v = .ok s') :
    normLanguage v = some (storedValue "LanguageAuto" v) ∧ storedValue "LanguageAuto" v ≠ "Auto" ∧ storedValue "LanguageAuto" v ≠ "" ∧
      storedValue "LanguageAuto" v ≠ noPreference ∧ prefToString s "Language" = some "Auto" := by
  obtain ⟨v', rfl, hnorm, hla, _⟩ := setPreference_cases E s s' "LanguageAuto" v h
  obtain ⟨hv1, hlang⟩ := hla rfl
  rcases normLanguage_ok v _ (hnorm (Or.inr rfl)) with e | ⟨hv2, hv3⟩
  · exact absurd e hv1
  · exact ⟨hnorm (Or.inr rfl), hv1, hv2, hv3, hlang⟩

end MC.Props.C12Sep
