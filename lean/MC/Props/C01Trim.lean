import MC.Props.C01Clean
import MC.Props.Edit
/-!
# C01 for `trim_element` + the clean-up skeleton, in the vocabulary of the C01 checker

`trim_visible`: for every tree over the modelled element vocabulary, the visible text (`visT`) of the trimmed tree is the
checker's `visibleIn` of the raw input, up to the normal form — `trim_element` only removes and collapses blanks.
`cleanMath_conserves_spec` chains it with `clean_conserves`.
-/
namespace MC.Props.C01Clean
open MC.Xml MC.Clean MC.Spec.Canon MC.Props.C01

mutual
theorem gather_eq_allText : (t : Node) → gather t = allText t
  | .text t => by rw [gather, allText]
  | .elem n attrs kids => by
    rw [gather, allText, gatherL_eq_allTextL kids]
    -- the checker's `nameIs n "mglyph"` is the decision of the model's test, and its `attr attrs "alt"` the model's look-up
    by_cases h : n = s "mglyph"
    · rw [if_pos h, if_pos (by simpa [nameIs] using h)]
      rfl
    · rw [if_neg h, if_neg (by simpa [nameIs] using h)]
theorem gatherL_eq_allTextL : (ts : List Node) → gatherL ts = allTextL ts
  | [] => by rw [gatherL, allTextL]
  | k :: ks => by rw [gatherL, allTextL, gather_eq_allText k, gatherL_eq_allTextL ks]
end

theorem cssWs_expand (c : Nat) (h : isCssWs c = true) : expandChar c = [] := by
  have four : ∀ d ∈ [32, 9, 10, 13], expandChar d = [] := by decide
  simp only [isCssWs, Bool.or_eq_true, decide_eq_true_eq, or_assoc] at h
  exact four c (by simpa using h)

/-- `WHITESPACE_MATCH.replace_all` deletes blanks, tabs and line breaks and writes blanks -/
theorem collapseWs_edit (b : Bool) (t : Str) : Edit (isCssWs · = true) (· = 32) t (collapseWs b t) := by
  induction t generalizing b with
  | nil => exact .nil
  | cons c r ih =>
    rw [collapseWs]
    split
    · rename_i hc
      split
      · exact .del hc (ih true)
      · exact .del hc (.ins rfl (ih true))
    · exact .keep c (ih false)

theorem trimMatches_edit (t : Str) : Edit (isCssWs · = true) (· = 32) t (trimMatches t) :=
  (Edit.dropWhile _ (fun _ h => h) t).trans (.dropWhile_end _ (fun _ h => h) _)

/-- what `trim_element` does to the text of a token is invisible to `expand`, which erases the blanks it deletes and writes -/
theorem trimLeaf_eqv (t : Str) : Eqv (trimMatches (collapseWs false t)) t :=
  Eqv.of_expand (((collapseWs_edit false t).trans (trimMatches_edit _)).flatMap_eq cssWs_expand
    fun c (hc : c = 32) => hc ▸ cssWs_expand 32 rfl)

/-- the checker's `visibleIn` on the modelled vocabulary: tokens show their text, `mspace` (a leaf that is no token) and the
hidden elements nothing, every other element its children (one case per name of `modelledEls`) -/
theorem visibleIn_vocab (n : Str) (attrs : List (Str × Str)) (kids : List Node) (h : modelledEls.contains n = true) :
    visibleIn (.elem n attrs kids) =
      if isLeafName n then (if tokenNames.contains n then allTextL kids else [])
      else if hidden n then [] else visibleInL kids := by
  simp only [modelledEls, List.contains_eq_mem, List.mem_cons, List.mem_nil_iff, or_false, decide_eq_true_eq] at h
  rcases h with h | h | h | h | h | h | h | h | h | h | h | h | h | h | h | h | h | h | h | h | h | h | h | h <;> subst h <;>
    rw [visibleIn] <;> simp +decide only [if_true, if_false]

mutual
/-- **`trim_element` hides nothing**: on the modelled vocabulary the visible text of the trimmed tree is the checker's
`visibleIn` of the raw input, in every context, up to the normal form (only blanks, tabs and line breaks go) -/
theorem trim_visible : (t : Node) → vocabOk t = true → Eqv (visT (trim t)) (visibleIn t)
  | .text t, _ => by rw [trim, visT, visibleIn]; exact Eqv.rfl_ _
  | .elem n attrs kids, h => by
    rw [vocabOk, Bool.and_eq_true] at h
    have ihL := trimL_visible kids h.2
    rw [visibleIn_vocab n attrs kids h.1, trim]
    by_cases hl : isLeafName n = true
    · rw [if_pos hl, if_pos hl]
      by_cases hk : kids.isEmpty = true
      · rw [if_pos hk, visT, if_pos hl]
        simp only [List.isEmpty_iff] at hk; subst hk
        split
        · simp only [textOf, allTextL]; exact Eqv.rfl_ _
        · exact Eqv.rfl_ _
      · rw [if_neg hk, visT, if_pos hl]
        split
        · simp only [textOf, List.append_nil]; rw [gatherL_eq_allTextL]; exact trimLeaf_eqv _
        · exact Eqv.rfl_ _
    · rw [if_neg hl, if_neg hl, visT_elem _ _ (by simpa using hl)]
      split
      · exact Eqv.rfl_ _
      · exact ihL
theorem trimL_visible : (ts : List Node) → vocabOkL ts = true → Eqv (visTL (trimL ts)) (visibleInL ts)
  | [], _ => by rw [trimL, visTL, visibleInL]; exact Eqv.rfl_ _
  | k :: ks, h => by
    rw [vocabOkL, Bool.and_eq_true] at h
    have h2 := trimL_visible ks h.2
    cases k with
    | text t =>
      simp only [trimL, List.nil_append, visibleInL, visibleIn]
      exact h2
    | elem n a c =>
      simp only [trimL, visibleInL]
      rw [visTL_append]
      refine Eqv.append ?_ h2
      simp only [visTL, List.append_nil]; exact trim_visible (.elem n a c) h.1
end

/-- **C01 for `trim_element` + the clean-up skeleton, against the checker's own reading of the input**: on the modelled
vocabulary, the visible text of what the first phase of `canonicalize` returns has the normal form of `visibleIn` of the
raw input -/
theorem cleanMath_conserves_spec (t r : Node) (hv : vocabOk t = true) (h : cleanMath t = some r) :
    norm (visT r) = norm (visibleIn t) := by
  rw [cleanMath_conserves t r h]
  exact Eqv.norm_eq (trim_visible t hv)

example : vocabOk (.elem (s "math") [] [.elem (s "mrow") [] [.elem (s "mi") [] [.text (s " x ")], .elem (s "mphantom") [] [.elem (s "mi") [] [.text (s "y")]],
      .elem (s "mn") [] [.text [0x2212, 53]]]]) = true := by decide +kernel

end MC.Props.C01Clean
