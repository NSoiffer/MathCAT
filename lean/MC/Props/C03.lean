import MC.Spec.Rows
import MC.Props.C03Stack
/-!
# C03 — row structure follows the operator dictionary

Theorems about `MC.Rows` (model of the shift/reduce row parser) for ALL token rows — well formed or not — and finite
facts about the regenerated operator dictionary.
-/
namespace MC.Props.C03
open MC.Rows

/-- the operators that are merged into one n-ary row have the same priority: + and −; × and the invisible times -/
theorem nary_same_priority : plusOp.prio = minusOp.prio ∧ timesSign.prio = impliedTimes.prio := by decide +kernel

/-- the four operators the parser refers to by name exist in the dictionary with the expected form -/
theorem named_operators_present :
    plusOp.isInfix = true ∧ minusOp.isInfix = true ∧ timesSign.isInfix = true ∧ impliedTimes.isInfix = true ∧
    plusOp.ident ≠ minusOp.ident ∧ timesSign.ident ≠ impliedTimes.ident := by decide +kernel

/-- the two facts below, in one evaluation of the table -/
theorem entries_wellformed : MC.Gen.OpDict.entries.all (fun e =>
    e.2.all (fun v => if v.1 &&& 8 = 8 then v.2 ≤ 20 else v.2 ≥ 25) &&
    (1 ≤ e.2.length && e.2.length ≤ 3 && e.2.all (fun v => v.1 &&& 7 ≠ 0 && v.2 > 0))) = true := by decide +kernel

/-- fences are the loosest operators of the dictionary: every left/right fence has priority ≤ 20 and every other variant
has priority ≥ 25 (so a fence is never reduced before the operators between the fences) -/
theorem fences_lowest :
    MC.Gen.OpDict.entries.all (fun e => e.2.all (fun v => if v.1 &&& 8 = 8 then v.2 ≤ 20 else v.2 ≥ 25)) = true :=
  List.all_eq_true.mpr fun e he => (Bool.and_eq_true_iff.mp (List.all_eq_true.mp entries_wellformed e he)).1

/-- every dictionary entry has between one and three variants, each prefix, infix or postfix (possibly a fence) and of
positive priority -/
theorem variants_wellformed :
    MC.Gen.OpDict.entries.all (fun e => 1 ≤ e.2.length && e.2.length ≤ 3 && e.2.all (fun v => v.1 &&& 7 ≠ 0 && v.2 > 0)) = true :=
  List.all_eq_true.mpr fun e he => (Bool.and_eq_true_iff.mp (List.all_eq_true.mp entries_wellformed e he)).2

/-- leaves of a tree in document order: (is operator, text, was inserted) -/
abbrev Atom := Bool × Str × Bool

mutual
def yieldT : T → List Atom
  | .operand t => [(false, t, false)]
  | .op t a => [(true, t, a)]
  | .row ks => yieldL ks
def yieldL : List T → List Atom
  | [] => []
  | t :: ts => yieldT t ++ yieldL ts
end

@[simp] theorem yieldL_nil : yieldL [] = [] := by simp [yieldL]
@[simp] theorem yieldL_cons (t : T) (ts : List T) : yieldL (t :: ts) = yieldT t ++ yieldL ts := by simp [yieldL]
@[simp] theorem yieldL_append (a b : List T) : yieldL (a ++ b) = yieldL a ++ yieldL b := by
  induction a with
  | nil => simp
  | cons t ts ih => simp [ih, List.append_assoc]
@[simp] theorem yield_row (ks : List T) : yieldT (.row ks) = yieldL ks := by simp [yieldT]
@[simp] theorem yield_operand (t : Str) : yieldT (.operand t) = [(false, t, false)] := by simp [yieldT]
@[simp] theorem yield_op (t : Str) (a : Bool) : yieldT (.op t a) = [(true, t, a)] := by simp [yieldT]

def frameYield (f : Frame) : List Atom := yieldL f.rkids.reverse

/-- the stack holds the top frame first; its yield reads from the bottom frame up -/
def stackYield : List Frame → List Atom
  | [] => []
  | f :: rest => stackYield rest ++ frameYield f

@[simp] theorem stackYield_nil : stackYield [] = [] := rfl
@[simp] theorem stackYield_cons (f : Frame) (r : List Frame) : stackYield (f :: r) = stackYield r ++ frameYield f := rfl

@[simp] theorem close_yield (f : Frame) : yieldT f.close = frameYield f := by
  unfold Frame.close frameYield
  split
  · rename_i t h; simp [h]
  · simp

@[simp] theorem addOp_yield (f : Frame) (t : T) (o : Op) : frameYield (f.addOp t o) = frameYield f ++ yieldT t := by
  simp [Frame.addOp, frameYield]

@[simp] theorem absorb_yield (f : Frame) (t : T) : frameYield (f.absorb t) = frameYield f ++ yieldT t := by
  simp [Frame.absorb, frameYield]

@[simp] theorem new_yield : frameYield Frame.new = [] := rfl

theorem reduce_yield (cur fuel : Nat) (s s' : List Frame) (h : reduce cur fuel s = .ok s') : stackYield s' = stackYield s :=
  -- the one move of `reduce` keeps the yield: what the closed top frame held now reads as the last operand of the frame below
  reduce_ind (P := fun s1 => stackYield s1 = stackYield s)
    (fun _ _ _ _ _ h => by rw [← h]; simp only [stackYield_cons, absorb_yield, close_yield, List.append_assoc]) fuel s s' h rfl

theorem reduceShift_yield (s s' : List Frame) (child : T) (o : Op) (h : reduceShift s child o = .ok s') :
    stackYield s' = stackYield s ++ yieldT child ∧ s' ≠ [] := by
  obtain ⟨top, rest, h1, hs⟩ := reduceShift_eq_ok h
  rw [← reduce_yield _ _ _ _ h1]
  refine ⟨?_, hs.ne_nil⟩
  -- in every result the frames hold the children of `top :: rest` and then `child`, in this order
  cases hs with
  | nary => simp                                                  -- `child` is added to `top`
  | opened => simp [frameYield]                                   -- … to a new frame above `top`
  | orphan t _ hk => simp [frameYield, Frame.absorb, Frame.new, hk]       -- `top` is `[t]`; a new frame holds the row `[t, child]`
  | closed below rest' _ hr => simp [frameYield, Frame.absorb, hr]        -- `top` and `child` are a row at the end of `below`
  | postfixOp last init _ hk => simp [frameYield, Frame.absorb, Frame.cut, hk]   -- the end of `top` is the row `[last, child]`
  | infixOp last init hk => simp [frameYield, Frame.cut, hk]             -- `last` moves from `top` to a new frame, before `child`

/-- what the parser may insert: the invisible times, flagged as added -/
def timesAtom : Atom := (true, [0x2062], true)

def vis (l : List Atom) : List Atom := l.filter (fun a => a != timesAtom)

def tokAtom : Tok → Atom
  | .operand t => (false, t, false)
  | .mo t => (true, t, false)

theorem vis_append (a b : List Atom) : vis (a ++ b) = vis a ++ vis b := by simp [vis, List.filter_append]
theorem vis_times : vis [timesAtom] = [] := by simp [vis]
theorem vis_tok (t : Tok) : vis [tokAtom t] = [tokAtom t] := by
  cases t <;> simp [vis, tokAtom, timesAtom]

theorem implied_vis (c : Bool) (s s1 : List Frame) (h : impliedIf c s = .ok s1) : vis (stackYield s1) = vis (stackYield s) := by
  unfold impliedIf at h
  split at h
  · rw [(reduceShift_yield _ _ _ _ h).1, vis_append, show yieldT (.op [0x2062] true) = [timesAtom] from rfl, vis_times, List.append_nil]
  · cases h; rfl

theorem step_yield (s s' : List Frame) (t : Tok) (n : Bool) (h : step s t n = .ok s') :
    vis (stackYield s') = vis (stackYield s) ++ [tokAtom t] ∧ s' ≠ [] := by
  rw [← vis_tok]
  cases t with
  | operand text =>
    rw [step_operand] at h
    obtain ⟨s1, h1, h⟩ := Outcome.bind_eq_ok.mp h
    obtain ⟨top, rest, rfl, -, rfl⟩ := addToTop_none_eq_ok.mp h
    rw [← implied_vis _ _ _ h1, ← vis_append]
    exact ⟨by simp [tokAtom], List.cons_ne_nil _ _⟩
  | mo text =>
    simp only [step_mo] at h
    split at h
    · obtain ⟨s1, h1, h⟩ := Outcome.bind_eq_ok.mp h
      cases h
      rw [← implied_vis _ _ _ h1, ← vis_append]
      exact ⟨by simp [frameYield, tokAtom], List.cons_ne_nil _ _⟩
    · obtain ⟨hy, hn⟩ := reduceShift_yield _ _ _ _ h
      rw [hy, vis_append]
      exact ⟨rfl, hn⟩

/-- **one step of the parser appends exactly the token** to the visible yield of the stack -/
theorem step_vis (s s' : List Frame) (t : Tok) (n : Bool) (h : step s t n = .ok s') (hs : s ≠ []) :
    vis (stackYield s') = vis (stackYield s) ++ [tokAtom t] ∧ s' ≠ [] :=
  step_yield s s' t n h

theorem run_yield (s s' : List Frame) (toks : List Tok) (h : run s toks = .ok s') :
    vis (stackYield s') = vis (stackYield s) ++ toks.map tokAtom := by
  have := run_ind (P := fun pre s1 => vis (stackYield s1) = vis (stackYield s) ++ pre.map tokAtom)
    (fun pre s1 t n s2 h hs => by rw [(step_yield _ _ _ _ h).1, hs]; simp) toks [] s s' h
  simpa using this

theorem flatMap_yield : ∀ rest : List Frame, yieldL (rest.flatMap (·.rkids)).reverse = stackYield rest
  | [] => rfl
  | g :: r => by
    simp only [List.flatMap_cons, List.reverse_append, yieldL_append, stackYield_cons, frameYield]
    rw [flatMap_yield r]

/-- **C03 / C01 for rows**: whenever the row parser returns a tree, for ANY row of tokens (well formed or not), the leaves
of the tree are exactly the tokens, in order, plus inserted invisible-times operators -/
theorem parseRow_yield (toks : List Tok) (t : T) (h : parseRow toks = .ok t) : vis (yieldT t) = toks.map tokAtom := by
  obtain ⟨s, hr, hf⟩ := parseRow_eq_ok.mp h
  obtain ⟨f, rest, h1, rfl⟩ := finish_eq_ok.mp hf
  -- `finish` strings the children of the frames below behind those of the top frame (stored last-first)
  have hfold : frameYield { f with rkids := f.rkids ++ rest.flatMap (·.rkids) } = stackYield (f :: rest) := by
    rw [frameYield, List.reverse_append, yieldL_append, flatMap_yield]
    rfl
  calc vis (yieldT (Frame.close _)) = vis (stackYield (f :: rest)) := by rw [close_yield, hfold]
    _ = vis (stackYield s) := by rw [reduce_yield _ _ _ _ h1]
    _ = toks.map tokAtom := by rw [run_yield _ _ _ hr]; rfl

/-- a token of the given kind, for the worked examples below -/
def tk (k s : String) : Tok := if k = "mo" then .mo (s.toList.map Char.toNat) else .operand (s.toList.map Char.toNat)
example : (match parseRow [tk "mi" "a", tk "mo" "+", tk "mi" "b", tk "mi" "c", tk "mo" "=", tk "mo" "-", tk "mi" "d", tk "mo" "!"] with
           | .ok t => MC.Spec.Rows.bracketed t | _ => false) = true := by decide +kernel
example : (match parseRow [tk "mo" "(", tk "mi" "a", tk "mo" "+", tk "mi" "b", tk "mo" ")", tk "mi" "c"] with
           | .ok (.row [.row [.op _ _, .row [_, _, _], .op _ _], .op [0x2062] true, .operand _]) => true | _ => false) = true := by
  decide +kernel

end MC.Props.C03
