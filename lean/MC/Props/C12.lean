import MC.Props.C12Step
/-!
# C12 — preferences read back as set, persist, and bad settings are rejected

Theorems about `MC.Prefs` (model of set_preference / get_preference after the `fix:` commit), for EVERY state, name and
value, and every behaviour of the two environment parameters (`filesOk`, `normFloat`).
-/
namespace MC.Props.C12
open MC.Prefs MC.Props.C12Sep

theorem setSeparators_init (s : PState) (l : String) : (setSeparators s l).initialized = s.initialized := by
  unfold setSeparators
  simp only
  split <;> rfl

/-- the preferences that a request for another preference may change -/
def coupled : List String := ["DecimalSeparators", "BlockSeparators", "LanguageAuto"]

/-- of the three writes of `setStringPref_writes` the first shows only in `LanguageAuto` and the last only in the two derived
preferences: hence `coupled` -/
theorem setStringPref_reads (E : Env) (s s' : PState) (k v k' : String) (h : setStringPref E s k v = .ok s')
    (hk' : k' = k ∨ k' ∉ coupled) : prefToString s' k' = if k' = k then some v else prefToString s k' := by
  obtain ⟨s1, s2, h1, h2, h3⟩ := setStringPref_writes E s s' k v h
  have r3 : prefToString s' k' = prefToString s2 k' := by
    rcases h3 with rfl | ⟨hk, L, rfl⟩
    · rfl
    · have : k' ≠ "DecimalSeparators" ∧ k' ≠ "BlockSeparators" := by
        rcases hk' with rfl | hc
        · rcases hk with e | e | e <;> rw [e] <;> exact ⟨by decide, by decide⟩
        · exact ⟨fun e => hc (by simp [coupled, e]), fun e => hc (by simp [coupled, e])⟩
      exact read_setSeparators s2 L k' this.1 this.2
  have r2 : prefToString s2 k' = if k' = k then some v else prefToString s1 k' := by
    rcases h2 with rfl | ⟨hnone, rfl⟩
    · exact read_api_write s1 k k' _
    · have : pget s1.api k = none := by
        rcases h1 with rfl | ⟨rfl, x, rfl⟩
        · exact hnone
        · exact (pget_pset_other _ _ _ _ (by decide)).trans hnone
      rw [read_user_write, this]
      simp [Val.render]
  rw [r3, r2]
  split
  · rfl
  · rename_i e
    rcases h1 with rfl | ⟨_, x, rfl⟩
    · rfl
    · exact (read_api_write s _ k' x).trans (if_neg fun e' => (hk'.resolve_left e) (by simp [coupled, e']))

/-- the value `get_preference` is documented to return after an accepted `set_preference` -/
def normalizedValue (E : Env) (s : PState) (n v : String) : String :=
  let v1 := if n = "Language" || n = "LanguageAuto" then (normLanguage v).getD v else v
  if MC.Gen.Prefs.floatNames.contains n then (E.normFloat v1).getD v1
  else if (asciiLower v1 = "true" || asciiLower v1 = "false") && isBooleanPref s n = some true then asciiLower v1
  else v1

/-- **C12 read-back**: in every state and environment an accepted `set_preference` reads back as the documented normalisation of
the value (language tag cut to two parts, booleans lower-cased for boolean preferences, floats re-rendered, everything else verbatim). -/
theorem read_back (E : Env) (s s' : PState) (n v : String) (h : setPreference E s n v = .ok s') :
    prefToString s' n = some (normalizedValue E s n v) := by
  obtain ⟨v', hv', _, _, hcase⟩ := setPreference_cases E s s' n v h
  have e : normalizedValue E s n v = if MC.Gen.Prefs.floatNames.contains n then (E.normFloat v').getD v'
      else if (asciiLower v' = "true" || asciiLower v' = "false") && isBooleanPref s n = some true then asciiLower v' else v' := by
    -- `normalizedValue` begins with the `let` that is the body of `storedValue`
    rw [hv']; rfl
  rw [e]
  rcases hcase with ⟨hf, f, hnf, rfl⟩ | ⟨hf, hb, hbp, rfl⟩ | ⟨hf, hnb, hsp⟩
  · rw [read_api_write, if_pos rfl, if_pos hf, hnf]; rfl
  · rw [read_api_write, if_pos rfl, if_neg (hf ▸ Bool.false_ne_true), if_pos (by simp [hb, hbp])]
    rcases hb with hb | hb <;> simp [hb, Val.render]
  · rw [setStringPref_reads E s s' n v' n hsp (Or.inl rfl), if_pos rfl, if_neg (hf ▸ Bool.false_ne_true), if_neg (by simpa using hnb)]

/-- **C12 frame**: an accepted `set_preference n` changes no other preference, except the documented couplings
(`Language`/`DecimalSeparator` recompute `DecimalSeparators`/`BlockSeparators`; `Language := Auto` saves `LanguageAuto`). -/
theorem frame (E : Env) (s s' : PState) (n v k' : String) (h : setPreference E s n v = .ok s')
    (hk : k' ≠ n) (hc : k' ∉ coupled) : prefToString s' k' = prefToString s k' := by
  obtain ⟨v', _, _, _, hcase⟩ := setPreference_cases E s s' n v h
  rcases hcase with ⟨_, f, _, rfl⟩ | ⟨_, _, _, rfl⟩ | ⟨_, _, hsp⟩
  · rw [read_api_write, if_neg hk]
  · rw [read_api_write, if_neg hk]
  · rw [setStringPref_reads E s s' n v' k' hsp (Or.inr hc), if_neg hk]

theorem language_name_not_float : MC.Gen.Prefs.floatNames.contains "Language" = false ∧
    MC.Gen.Prefs.floatNames.contains "LanguageAuto" = false := by decide

/-- **unknown names are rejected** with an error (never a panic, never accepted), whatever the value -/
theorem reject_unknown (E : Env) (s : PState) (n v : String)
    (ha : pget s.api n = none) (hu : pget s.user n = none) (hf : MC.Gen.Prefs.floatNames.contains n = false) :
    ∃ k, setPreference E s n v = .err k := by
  have hs : ∀ val, setStringPref E s n val = .err "unknown-preference" := by
    intro val; simp [setStringPref, setStringPrefCore, chooseMap, ha, hu]
  -- any other outcome would be that of one of the three branches: not a float, not a boolean preference, and the text branch errs
  cases h : setPreference E s n v with
  | err k => exact ⟨k, rfl⟩
  | ok _ | panic _ =>
    obtain ⟨v', _, _, _, hd⟩ := setPreference_dispatch E s n v _ h (fun e he => by cases he)
    rcases hd with ⟨hf', _⟩ | ⟨_, _, hb, _⟩ | ⟨_, _, ho⟩
    · rw [hf] at hf'; cases hf'
    · simp [isBooleanPref, ha, hu] at hb
    · rw [hs] at ho; cases ho

/-- **wrong kind, float**: a float preference given text that is not a number is an error -/
theorem reject_non_float (E : Env) (s : PState) (n v : String) (hf : MC.Gen.Prefs.floatNames.contains n = true)
    (hinit : s.initialized = true) (hv : E.normFloat v = none) :
    setPreference E s n v = .err "not-a-float" := by
  have hn1 : n ≠ "Language" := fun h => by rw [h, language_name_not_float.1] at hf; cases hf
  have hn2 : n ≠ "LanguageAuto" := fun h => by rw [h, language_name_not_float.2] at hf; cases hf
  unfold setPreference
  -- forward through `set_preference`, guard by guard
  simp only [hn1, hn2, decide_false, Bool.or_self, Bool.false_eq_true, if_false,     -- not a language: the value as given
    hinit, Bool.not_true,                                                            -- initialised
    Bool.false_and,                                                                  -- not `LanguageAuto`
    hf, if_true, hv]                                                                 -- a float name, and `normFloat` fails

/-- **wrong kind, boolean**: a preference holding a boolean, given text that is neither true nor false, is an error -/
theorem reject_non_boolean (E : Env) (s : PState) (n v : String) (b : Bool)
    (hstored : pget s.api n = some (.bool b) ∨ (pget s.api n = none ∧ pget s.user n = some (.bool b)))
    (hv : asciiLower v ≠ "true" ∧ asciiLower v ≠ "false") (hf : MC.Gen.Prefs.floatNames.contains n = false)
    (hn1 : n ≠ "Language") (hn2 : n ≠ "LanguageAuto") (hinit : s.initialized = true) :
    setPreference E s n v = .err "wrong-kind-boolean" := by
  unfold setPreference
  -- forward through `set_preference`, guard by guard, down to `set_string_pref`
  simp only [hn1, hn2, decide_false, Bool.or_self, Bool.false_eq_true, if_false,     -- not a language: the value as given
    hinit, Bool.not_true,                                                            -- initialised
    Bool.false_and,                                                                  -- not `LanguageAuto`
    hf,                                                                              -- not a float name
    hv.1, hv.2]                                                                      -- the text is no boolean
  -- `chooseMap` finds the boolean and errs
  rcases hstored with h | ⟨h1, h2⟩
  · simp [setStringPref, setStringPrefCore, chooseMap, h]
  · simp [setStringPref, setStringPrefCore, chooseMap, h1, h2]

/-- the two user-map entries that `set_string_pref` unwraps -/
def Inv (s : PState) : Prop :=
  (∃ d, pget s.user "DecimalSeparator" = some (.str d)) ∧ (∃ l, pget s.user "Language" = some (.str l))

theorem setStringPref_no_panic (E : Env) (s : PState) (k v : String) (hi : Inv s) : ∀ p, setStringPref E s k v ≠ .panic p := by
  intro p h
  obtain ⟨s1, hu, hp⟩ := setStringPref_panic E s k v p h
  obtain ⟨⟨d, hd⟩, l, hl⟩ := hi
  rw [storeUser_eq s1 k v d l (hu ▸ hd) (hu ▸ hl)] at hp
  cases hp

theorem setPreference_no_panic (E : Env) (s : PState) (n v : String) (hi : Inv s) :
    ∀ p, setPreference E s n v ≠ .panic p := by
  intro p h
  obtain ⟨v', h'⟩ := setPreference_panic E s n v p h
  exact setStringPref_no_panic E s n v' hi p h'

/-- `get_preference` never panics (it is total in the model by construction; stated for completeness) -/
theorem getPreference_no_panic (s : PState) (n : String) : ∀ p, getPreference s n ≠ .panic p := by
  intro p; unfold getPreference; split
  · simp
  · split <;> simp

/-- the user map receives only text: an entry that holds text keeps holding text -/
theorem user_text_step (E : Env) (s s' : PState) (n v k : String) (h : setPreference E s n v = .ok s')
    (hk : ∃ t, pget s.user k = some (.str t)) : ∃ t, pget s'.user k = some (.str t) := by
  obtain ⟨v', _, _, _, hcase⟩ := setPreference_cases E s s' n v h
  rcases hcase with ⟨_, f, _, rfl⟩ | ⟨_, _, _, rfl⟩ | ⟨_, _, hsp⟩
  · exact hk
  · exact hk
  · obtain ⟨s1, s2, h1, h2, h3⟩ := setStringPref_writes E s s' n v' hsp
    have hk1 : ∃ t, pget s1.user k = some (.str t) := by
      rcases h1 with rfl | ⟨_, x, rfl⟩ <;> exact hk
    have hk2 : ∃ t, pget s2.user k = some (.str t) := by
      rcases h2 with rfl | ⟨_, rfl⟩
      · exact hk1
      · exact pset_str _ _ _ _ hk1
    rcases h3 with rfl | ⟨_, L, rfl⟩
    · exact hk2
    · exact setSeparators_str _ _ _ hk2

theorem inv_step (E : Env) (s s' : PState) (n v : String) (h : setPreference E s n v = .ok s') (hi : Inv s) : Inv s' :=
  ⟨user_text_step E s s' n v _ h hi.1, user_text_step E s s' n v _ h hi.2⟩

/-- all that the invariants of C12, C15 and C16 need of the shipped prefs.yaml (the state after `set_rules_dir`), evaluated once -/
theorem initState_reads : initState.initialized = true ∧ initState.api = MC.Gen.Prefs.apiDefaults ∧
    pget initState.user "Language" = some (.str "Auto") ∧ pget initState.user "LanguageAuto" = some (.str "") ∧
    pget initState.user "DecimalSeparator" = some (.str "Auto") ∧ pget initState.user "DecimalSeparators" = some (.str ".") ∧
    pget initState.user "BlockSeparators" = some (.str ", \u00A0\u202F") := by decide +kernel

theorem initState_language : prefToString initState "Language" = some "Auto" := by
  rw [prefToString_user _ _ (by rw [initState_reads.2.1]; decide), initState_reads.2.2.1]; rfl

theorem inv_init : Inv initState := ⟨⟨_, initState_reads.2.2.2.2.1⟩, ⟨_, initState_reads.2.2.1⟩⟩

/-- a history of `set_preference` calls; a rejected one leaves the store as it is -/
def runOps (E : Env) : PState → List (String × String) → PState
  | s, [] => s
  | s, (n, v) :: rest =>
    match setPreference E s n v with
    | .ok s' => runOps E s' rest
    | _ => runOps E s rest

theorem runOps_invariant (E : Env) (P : PState → Prop) (ops : List (String × String))
    (hstep : ∀ op ∈ ops, ∀ s s', setPreference E s op.1 op.2 = .ok s' → P s → P s') (s : PState) (hs : P s) : P (runOps E s ops) := by
  induction ops generalizing s with
  | nil => exact hs
  | cons op rest ih =>
    obtain ⟨n, v⟩ := op
    have ih := ih fun o ho => hstep o (List.mem_cons_of_mem _ ho)
    simp only [runOps]
    split
    · rename_i s' h; exact ih s' (hstep (n, v) (List.mem_cons_self ..) s s' h hs)
    · exact ih s hs

theorem inv_reachable (E : Env) (ops : List (String × String)) : Inv (runOps E initState ops) :=
  runOps_invariant E Inv ops (fun op _ s s' h => inv_step E s s' op.1 op.2 h) _ inv_init

/-- **C12/C08 for the preference store**: after ANY history of calls, `set_preference` does not panic. -/
theorem no_panic_after_any_history (E : Env) (ops : List (String × String)) (n v : String) :
    ∀ p, setPreference E (runOps E initState ops) n v ≠ .panic p :=
  setPreference_no_panic E _ n v (inv_reachable E ops)

def envAll : Env := { filesOk := fun _ _ => true, normFloat := fun s => some s }
/-- three of the test vectors below, decided together: what costs is the evaluation of the shipped prefs.yaml, and they share it -/
theorem initState_vectors :
    (match setPreference envAll initState "Verbosity" "Terse" with
     | .ok s => decide (getPreference s "Verbosity" = .ok "Terse") && decide (getPreference s "Language" = .ok "Auto")
     | _ => false) = true ∧
    setPreference envAll initState "NoSuchPref" "true" = .err "unknown-preference" ∧
    (match setPreference envAll initState "Verbosity" noPreference with
     | .ok s => decide (getPreference s "Verbosity" = .err "no-preference")
     | _ => false) = true := by decide +kernel

example : getPreference initState "Language" = .ok "Auto" := by rw [getPreference, initState_language]; rfl
example : (match setPreference envAll initState "Verbosity" "Terse" with
           | .ok s => decide (getPreference s "Verbosity" = .ok "Terse") && decide (getPreference s "Language" = .ok "Auto")
           | _ => false) = true := initState_vectors.1
example : setPreference envAll initState "Bookmark" "yes" = .err "wrong-kind-boolean" :=
  reject_non_boolean envAll initState "Bookmark" "yes" false (Or.inl (by rw [initState_reads.2.1]; decide))
    (by decide +kernel) (by decide) (by decide) (by decide) initState_reads.1
example : setPreference envAll initState "NoSuchPref" "true" = .err "unknown-preference" := initState_vectors.2.1

/-- **read-back through `get_preference`** — needs the value not to be the library's own NO_PREFERENCE sentinel … -/
theorem get_read_back (E : Env) (s s' : PState) (n v : String) (h : setPreference E s n v = .ok s')
    (hne : normalizedValue E s n v ≠ noPreference) : getPreference s' n = .ok (normalizedValue E s n v) := by
  unfold getPreference
  rw [read_back E s s' n v h]
  simp [hne]

/-- … and the hypothesis is necessary: the full-strength statement (without `hne`) is FALSE of the code. Witness (replayed on
the implementation by the C12 check, recorded as known finding C12-sentinel-uFFFF): U+FFFF is accepted and cannot be read back. -/
theorem get_read_back_fails_for_sentinel :
    (match setPreference envAll initState "Verbosity" noPreference with
     | .ok s => decide (getPreference s "Verbosity" = .err "no-preference")
     | _ => false) = true := initState_vectors.2.2

end MC.Props.C12
