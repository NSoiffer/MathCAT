/-! How the proofs walk a chain of `if`s of a model function without retyping its guards. -/
namespace MC

/-- a property of both branches of an `if` is a property of the `if` (each condition arrives as a hypothesis) -/
theorem ite_ind {α : Type} {P : α → Prop} {c : Prop} [Decidable c] {x y : α} (hx : c → P x) (hy : ¬ c → P y) :
    P (if c then x else y) := by
  split
  · exact hx ‹_›
  · exact hy ‹_›

end MC
