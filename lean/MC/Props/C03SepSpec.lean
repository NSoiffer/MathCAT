import MC.Props.C03Sep
/-!
C03 clause (d): the executable checker `MC.Spec.Rows.violations` (run by checks/c03.py on every canonical tree of the
implementation and of the model) reports a "(d)" line exactly when the structural predicate `Separated` fails, for every tree.
Hence `parseRow_operands_separated` says: on no token sequence does the checker ever report clause (d) for the model's parse.
-/
namespace MC.Props.C03SepSpec
open MC.Rows MC.Spec.Rows

theorem adjacentOperands_eq (kids : List T) : adjacentOperands kids = !noAdj kids := by
  induction kids with
  | nil => simp [adjacentOperands, noAdj]
  | cons x r ih =>
    cases r with
    | nil => simp [adjacentOperands, noAdj]
    | cons y r =>
      have : adjacentOperands (x :: y :: r) = ((!isOpLeaf x && !isOpLeaf y) || adjacentOperands (y :: r)) := by
        simp only [adjacentOperands, List.length_cons, Nat.add_sub_cancel]
        -- index 0 is the pair `x, y`; index `i + 1` of `x :: y :: r` is index `i` of `y :: r`
        rw [List.range_succ_eq_map, List.any_cons, List.any_map]
        simp only [Function.comp_def, List.getElem?_cons_zero, List.getElem?_cons_succ, Nat.succ_eq_add_one, Nat.zero_add]
      rw [this, ih]
      simp [noAdj, Bool.not_and, Bool.not_or]

def hasD (l : List String) : Bool := l.any (fun v => v.startsWith "(d)")

theorem hasD_append (a b : List String) : hasD (a ++ b) = (hasD a || hasD b) := by simp [hasD]
@[simp] theorem hasD_nil : hasD [] = false := rfl

/-- the shape in which `violations` reports a clause -/
theorem hasD_other (c : Prop) [Decidable c] (msg : String) (h : msg.startsWith "(d)" = false) : hasD (if c then [] else [msg]) = false := by
  split <;> simp [hasD, h]

mutual
/-- of the messages of a row, those of clauses (a) and (b) do not begin with "(d)", and the one of clause (d) is there exactly when two
operands are neighbours -/
theorem hasD_violations : (t : T) → hasD (violations t) = !Separated t
  | .operand _ => rfl
  | .op _ _ => rfl
  | .row kids => by
      have key {a d b s n : Bool} (ha : a = false) (hb : b = false) (hd : d = !n) : (a || d || b || !s) = !(n && s) := by
        subst ha hb hd; cases n <;> cases s <;> rfl
      simp only [violations, hasD_append, hasD_violationsL kids, Separated]
      refine key ?_ ?_ ?_
      · split        -- clause (a): no operator in the row, or the test
        · rfl
        · exact hasD_other _ _ (by decide +kernel)
      · split        -- clause (b): a fenced row or one without operator, or the test
        · rfl
        · exact hasD_other _ _ (by decide +kernel)
      · rw [adjacentOperands_eq]
        cases noAdj kids <;> decide +kernel
theorem hasD_violationsL : (ts : List T) → hasD (violationsL ts) = !SeparatedL ts
  | [] => rfl
  | t :: ts => by simp [violationsL, SeparatedL, hasD_append, hasD_violations t, hasD_violationsL ts]
end

/-- the checker reports clause (d) somewhere in a tree exactly when the tree is not `Separated` -/
theorem reportsD_iff (t : T) : reportsD t = !Separated t := hasD_violations t

/-- **C03 clause (d), in the checker's own terms**: for every token sequence on which the parser returns a tree, the checker
that checks/c03.py runs on the canonical trees reports no "(d) adjacent operands" line, at any depth -/
theorem parseRow_never_reports_d (toks : List Tok) (t : T) (h : parseRow toks = .ok t) : reportsD t = false := by
  rw [reportsD_iff, MC.Props.C03Sep.parseRow_operands_separated toks t h]; rfl

/-- the equivalence is not vacuous: a tree with two neighbouring operands two levels down is reported -/
example : reportsD (.row [.operand [97], .op [43] false, .row [.operand [98], .operand [99]]]) = true := by
  rw [reportsD_iff]; decide +kernel

end MC.Props.C03SepSpec
