import MC.Spec.Rows
import MC.Props.C03Stack
/-!
# C03, clause (d) — adjacent operands are always separated by an operator

"… and adjacent operands are always separated by an explicit or inserted invisible operator", for EVERY sequence of tokens
on which the row parser returns a tree and for every row of that tree, at any depth. An "operand" here is what the Spec
checker (`MC.Spec.Rows`, clause (d)) calls one: a child that is not an `mo` leaf.

The invariant, per frame of the parse stack (children stored last-first): the children alternate well enough —
no two neighbouring non-`mo` children; if the frame waits for an operand its last child is an `mo` leaf (or there is none);
if it ends in an operand, the child before that is an `mo` leaf (or there is none) — and every child is itself a tree whose
rows are separated. Frames below the top one all wait for an operand.
-/
namespace MC.Props.C03Sep
open MC.Rows MC.Spec.Rows

def headOp : List T → Bool
  | [] => true
  | x :: _ => isOpLeaf x

theorem noAdj_cons (x : T) (r : List T) : noAdj (x :: r) = ((isOpLeaf x || headOp r) && noAdj r) := by
  cases r <;> simp [noAdj, headOp]

theorem headOp_append (a b : List T) (h : a ≠ []) : headOp (a ++ b) = headOp a := by
  cases a with
  | nil => exact absurd rfl h
  | cons => rfl

theorem noAdj_append (a b : List T) : noAdj (a ++ b) = (noAdj a && noAdj b && (headOp a.reverse || headOp b)) := by
  induction a with
  | nil => simp [noAdj, headOp]
  | cons x a ih =>
    cases a with
    | nil => simp [noAdj_cons, noAdj, headOp, Bool.and_comm]
    | cons y a =>
      have hr : headOp (x :: y :: a).reverse = headOp (y :: a).reverse := by
        rw [List.reverse_cons, headOp_append _ _ (by simp)]
      rw [List.cons_append, noAdj_cons, ih, hr, noAdj_cons x]
      simp [headOp, Bool.and_assoc]

theorem noAdj_reverse (a : List T) : noAdj a.reverse = noAdj a := by
  induction a with
  | nil => rfl
  | cons x a ih => simp [noAdj_append, noAdj_cons, ih, noAdj, headOp, Bool.and_comm, Bool.or_comm]

theorem SeparatedL_eq_all (ks : List T) : SeparatedL ks = ks.all Separated := by
  induction ks with
  | nil => rfl
  | cons k ks ih => simp [SeparatedL, ih]

theorem SeparatedL_append (a b : List T) : SeparatedL (a ++ b) = (SeparatedL a && SeparatedL b) := by
  simp only [SeparatedL_eq_all, List.all_append]

theorem row_sep (ks : List T) (hadj : noAdj ks = true) (hkids : SeparatedL ks = true) : Separated (.row ks.reverse) = true := by
  rw [Separated, SeparatedL_eq_all, noAdj_reverse, List.all_reverse, ← SeparatedL_eq_all, hadj, hkids]
  rfl

structure FrameSep (f : Frame) : Prop where
  adj : noAdj f.rkids = true
  kids : SeparatedL f.rkids = true
  waiting : f.isOperand = false → headOp f.rkids = true
  after : f.isOperand = true → ∃ h tl, f.rkids = h :: tl ∧ headOp tl = true

theorem frameSep_new : FrameSep Frame.new := ⟨rfl, rfl, fun _ => rfl, fun h => nomatch h⟩

theorem FrameSep.isOperand_eq_false {f : Frame} (h : FrameSep f) (hw : f.rkids = [] ∨ f.isOperand = false) : f.isOperand = false := by
  cases hop : f.isOperand
  · rfl
  · obtain ⟨_, _, hk, _⟩ := h.after hop
    rcases hw with h | h
    · rw [hk] at h; cases h
    · rw [hop] at h; cases h

theorem close_sep (f : Frame) (hadj : noAdj f.rkids = true) (hkids : SeparatedL f.rkids = true) : Separated f.close = true := by
  unfold Frame.close
  split
  · rename_i t heq
    simpa [heq, SeparatedL] using hkids
  · exact row_sep _ hadj hkids

theorem FrameSep.absorb {f : Frame} (h : FrameSep f) (hw : f.isOperand = false) {t : T} (ht : Separated t = true) : FrameSep (f.absorb t) :=
  ⟨by simp [Frame.absorb, noAdj_cons, h.waiting hw, h.adj], by simp [Frame.absorb, SeparatedL, ht, h.kids], fun h => (nomatch h),
    fun _ => ⟨t, f.rkids, rfl, h.waiting hw⟩⟩

theorem FrameSep.addOp {f : Frame} (h : FrameSep f) (text : Str) (a : Bool) (o : Op) : FrameSep (f.addOp (.op text a) o) :=
  ⟨by simp [Frame.addOp, noAdj_cons, isOpLeaf, h.adj], by simp [Frame.addOp, SeparatedL, Separated, h.kids], fun _ => rfl, fun h => nomatch h⟩

theorem FrameSep.cut {f : Frame} (h : FrameSep f) {last : T} {init : List T} (hk : f.rkids = last :: init) (hop : f.isOperand = true) :
    FrameSep (f.cut init) ∧ Separated last = true := by
  obtain ⟨_, _, hk', htl⟩ := h.after hop
  have hadj := h.adj
  have hkids := h.kids
  rw [hk] at hk' hadj hkids
  cases hk'
  simp only [noAdj_cons, SeparatedL, Bool.and_eq_true] at hadj hkids
  exact ⟨⟨hadj.2, hkids.2, fun _ => htl, fun h => nomatch h⟩, hkids.1⟩

structure StackSep (s : List Frame) : Prop where
  frames : ∀ f ∈ s, FrameSep f
  below : ∀ f ∈ s.tail, f.isOperand = false

theorem stackSep_cons {top : Frame} {rest : List Frame} :
    StackSep (top :: rest) ↔ FrameSep top ∧ ∀ f ∈ rest, FrameSep f ∧ f.isOperand = false :=
  ⟨fun h => ⟨h.frames top (by simp), fun f hf => ⟨h.frames f (by simp [hf]), h.below f hf⟩⟩,
   fun h => ⟨fun f hf => by
      rcases List.mem_cons.mp hf with rfl | hf
      · exact h.1
      · exact (h.2 f hf).1, fun f hf => (h.2 f hf).2⟩⟩

theorem StackSep.push {s : List Frame} (h : StackSep s) (hw : topIsOperand s = false) {F : Frame} (hF : FrameSep F) : StackSep (F :: s) := by
  match s with
  | [] => exact stackSep_cons.mpr ⟨hF, fun _ h => nomatch h⟩
  | top :: rest =>
    obtain ⟨hT, hr⟩ := stackSep_cons.mp h
    exact stackSep_cons.mpr ⟨hF, List.forall_mem_cons.mpr ⟨⟨hT, hw⟩, hr⟩⟩

theorem reduce_sep (cur fuel : Nat) (s s' : List Frame) (he : reduce cur fuel s = .ok s') (h : StackSep s) : StackSep s' := by
  refine reduce_ind (fun top below rest _ hw h => ?_) fuel s s' he h
  obtain ⟨hT, hr⟩ := stackSep_cons.mp h
  obtain ⟨⟨hB, _⟩, hr⟩ := List.forall_mem_cons.mp hr
  exact stackSep_cons.mpr ⟨hB.absorb hw (close_sep top hT.adj hT.kids), hr⟩

theorem reduceShift_sep (s s' : List Frame) (text : Str) (a : Bool) (o : Op) (he : reduceShift s (.op text a) o = .ok s')
    (h : StackSep s) : StackSep s' := by
  obtain ⟨top, rest, h1, hs⟩ := reduceShift_eq_ok he
  obtain ⟨hT, hr⟩ := stackSep_cons.mp (reduce_sep _ _ _ _ h1 h)
  have hrow : Separated (.row (.op text a :: top.rkids).reverse) = true := row_sep _ (hT.addOp text a o).adj (hT.addOp text a o).kids
  cases hs with
  | nary => exact stackSep_cons.mpr ⟨hT.addOp text a o, hr⟩
  | opened _ hw =>
    exact stackSep_cons.mpr ⟨frameSep_new.addOp text a o, List.forall_mem_cons.mpr ⟨⟨hT, hT.isOperand_eq_false hw⟩, hr⟩⟩
  | orphan t _ hk =>
    rw [hk] at hrow
    exact stackSep_cons.mpr ⟨frameSep_new.absorb rfl hrow, hr⟩
  | closed below rest' _ hb hw =>
    subst hb
    obtain ⟨⟨hB, _⟩, hr⟩ := List.forall_mem_cons.mp hr
    exact stackSep_cons.mpr ⟨hB.absorb hw hrow, hr⟩
  | postfixOp last init _ hk hop =>
    obtain ⟨hC, hl⟩ := hT.cut hk hop
    exact stackSep_cons.mpr ⟨hC.absorb rfl (by simp [Separated, SeparatedL, noAdj, isOpLeaf, hl]), hr⟩
  | infixOp last init hk hop =>
    obtain ⟨hC, hl⟩ := hT.cut hk hop
    refine stackSep_cons.mpr ⟨⟨?_, ?_, fun _ => rfl, fun h => nomatch h⟩, List.forall_mem_cons.mpr ⟨⟨hC, rfl⟩, hr⟩⟩
    · simp [noAdj, isOpLeaf]
    · simp [SeparatedL, Separated, hl]

theorem impliedIf_sep (c : Bool) (s s1 : List Frame) (he : impliedIf c s = .ok s1) (h : StackSep s) : StackSep s1 := by
  unfold impliedIf at he
  split at he
  · exact reduceShift_sep _ _ _ _ _ he h
  · cases he; exact h

theorem step_sep (s s' : List Frame) (tok : Tok) (nxt : Bool) (he : step s tok nxt = .ok s') (h : StackSep s) : StackSep s' := by
  cases tok with
  | operand text =>
    rw [step_operand] at he
    obtain ⟨s1, h1, he⟩ := Outcome.bind_eq_ok.mp he
    obtain ⟨top, rest, rfl, hw, rfl⟩ := addToTop_none_eq_ok.mp he
    obtain ⟨hT, hr⟩ := stackSep_cons.mp (impliedIf_sep _ _ _ h1 h)
    exact stackSep_cons.mpr ⟨hT.absorb hw rfl, hr⟩
  | mo text =>
    simp only [step_mo] at he
    split at he
    · obtain ⟨s1, h1, he⟩ := Outcome.bind_eq_ok.mp he
      cases he
      exact (impliedIf_sep _ _ _ h1 h).push (impliedIf_waiting h1 id) (frameSep_new.addOp text false _)
    · exact reduceShift_sep _ _ _ _ _ he h

/-- what `finish` puts behind the children of the top frame -/
theorem flatMap_sep (fs : List Frame) (h : ∀ f ∈ fs, FrameSep f ∧ f.isOperand = false) :
    noAdj (fs.flatMap (·.rkids)) = true ∧ headOp (fs.flatMap (·.rkids)) = true ∧ SeparatedL (fs.flatMap (·.rkids)) = true := by
  induction fs with
  | nil => exact ⟨rfl, rfl, rfl⟩
  | cons f r ih =>
    obtain ⟨⟨hf, hop⟩, hr⟩ := List.forall_mem_cons.mp h
    obtain ⟨i1, i2, i3⟩ := ih hr
    have hw := hf.waiting hop
    rw [List.flatMap_cons, noAdj_append, SeparatedL_append, hf.adj, hf.kids, i1, i2, i3]
    refine ⟨by simp, ?_, rfl⟩
    by_cases hk : f.rkids = []
    · rw [hk]; exact i2
    · rw [headOp_append _ _ hk]; exact hw

/-- **adjacent operands are always separated** (C03, clause (d)): whatever the tokens, if the parser returns a tree, no row of it, at
any depth, has two neighbouring children that are both operands — an explicit or inserted invisible operator stands between them -/
theorem parseRow_operands_separated (toks : List Tok) (t : T) (h : parseRow toks = .ok t) : Separated t = true := by
  obtain ⟨s, hr, hf⟩ := parseRow_eq_ok.mp h
  obtain ⟨f, rest, h1, rfl⟩ := finish_eq_ok.mp hf
  have hs : StackSep s := run_ind (P := fun _ s => StackSep s) (fun _ _ _ _ _ => step_sep _ _ _ _) toks [] _ s hr
    (stackSep_cons.mpr ⟨frameSep_new, fun _ h => nomatch h⟩)
  obtain ⟨hF, hrest⟩ := stackSep_cons.mp (reduce_sep _ _ _ _ h1 hs)
  obtain ⟨j1, j2, j3⟩ := flatMap_sep rest hrest
  exact close_sep _ (by simp [noAdj_append, hF.adj, j1, j2]) (by rw [SeparatedL_append, hF.kids, j3]; rfl)

/-- non-vacuity: the parser does return a tree on a row with neighbouring operands -/
example : ∃ t, parseRow [.operand [50], .operand [120], .mo [43], .mo [40], .operand [97], .operand [98], .mo [41], .operand [99]] = .ok t ∧ Separated t = true := by
  refine ⟨_, rfl, ?_⟩
  decide +kernel

end MC.Props.C03Sep
