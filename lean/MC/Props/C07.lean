import MC.Spec.BrailleFinal
import MC.Props.BrailleFinalLemmas
/-!
# C07 — braille output uses only the target alphabet (final phase + shipped literals)
-/
namespace MC.Props.C07
open MC.BrailleFinal MC.Spec.BrailleFinal

theorem values_are_cells : codes.all valuesOk = true := by decide +kernel

/-- no shipped literal can leak a non-braille character (this theorem failed on the pinned tree for Nemeth ‰ "`00",
chemistry "(" ")", ‴ ⁗ "⠄⠄." and the Swedish literal "*[3]": four `fix:` commits) -/
theorem literals_in_alphabet : codes.all literalsOk = true := by decide +kernel

/-- the dead table entries are exactly these (a documented static discrepancy: the UEB-family class contains `.-—`, which
the regex crate reads as the range U+002E–U+2014, so a literal `-` is not matched; Finnish shares a table it only partly
uses). A change of a class or table that creates or removes a dead entry breaks this theorem. -/
theorem dead_entries_exactly :
    codes.map unmatchedKeys =
      [[], [[45]], [[45]], [[119873], [45]], [[45]],
       [[49], [119888], [116], [119830], [115], [101], [46], [45], [8212], [8213], [35]]] := by decide +kernel

theorem replacement_cells (code : Nat) (pref : Str → Str) (c : Nat) (hcode : code ∈ codes)
    (hpref : ∀ k, (pref k).all isCell = true) (hc : inRanges (classOf code) c = true) :
    (replacement code pref c).all isCell = true := by
  unfold replacement
  split
  · exact hpref _
  · rename_i hov
    split
    · rename_i v hv
      -- the entry found is an entry of the table, and `valuesOk` holds of every entry
      obtain ⟨l₁, l₂, hl, _⟩ := List.lookup_eq_some_iff.mp hv
      have h := List.all_eq_true.mp (List.all_eq_true.mp values_are_cells code hcode) ([c], v)
        (hl ▸ List.mem_append_right _ List.mem_cons_self)
      simp only [hc, Bool.not_true, Bool.false_or, Bool.or_eq_true] at h
      exact h.resolve_left hov
    · rfl

/-- for every string whose characters are braille cells or indicator letters matched by the code's class, and cell-valued
typeform preferences, `REPLACE_INDICATORS` leaves braille cells only -/
theorem replaceIndicators_all_cells (code : Nat) (pref : Str → Str) (s : Str) (hcode : code ∈ codes)
    (hpref : ∀ k, (pref k).all isCell = true)
    (hs : ∀ c ∈ s, isCell c = true ∨ inRanges (classOf code) c = true) :
    (replaceIndicators code pref s).all isCell = true := by
  rw [replaceIndicators, List.all_flatMap, List.all_eq_true]
  intro c hc
  split
  · rename_i hin
    exact replacement_cells code pref c hcode hpref hin
  · rename_i hin
    rw [List.all_cons, (hs c hc).resolve_right hin]
    rfl

/-- **C07, final phase**: so does the whole last phase, since trimming and collapsing blanks only remove characters -/
theorem finalPhase_all_cells (code : Nat) (pref : Str → Str) (s : Str) (hcode : code ∈ codes)
    (hpref : ∀ k, (pref k).all isCell = true)
    (hs : ∀ c ∈ s, isCell c = true ∨ inRanges (classOf code) c = true) :
    (finalPhase code pref s).all isCell = true := by
  have h := replaceIndicators_all_cells code pref s hcode hpref hs
  rw [List.all_eq_true] at h ⊢
  exact fun x hx => h x ((blanks_edit _).subset hx)

end MC.Props.C07
