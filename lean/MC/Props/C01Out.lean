import MC.Props.C01Trim
/-!
# C01: the checker accepts what the clean-up skeleton returns

`clean_out`: on the modelled vocabulary, trimmed input gives output in which tokens hold text only, containers hold elements
only, and nothing hidden or positional (`mmultiscripts`) is left — so the checker's `visibleOut` of the output is `visT` of it
(`visT_eq_visibleOut`), which closes the loop between `clean_conserves` and the checker (`conserves_cleanMath`).
-/
namespace MC.Props.C01Clean
open MC.Xml MC.Clean MC.Spec.Canon MC.Props.C01

def isText : Node → Bool
  | .text _ => true
  | .elem _ _ _ => false

def hiddenName (n : Str) : Bool := n = s "mphantom" || n = s "malignmark" || n = s "maligngroup"

mutual
/-- the shape of an output: tokens hold text only (and a leaf that is not a token holds nothing), containers hold elements only,
no hidden element and no `mmultiscripts` -/
def Out : Node → Bool
  | .text _ => false
  | .elem n _ kids =>
    if isLeafName n then kids.all isText && (tokenNames.contains n || kids.isEmpty)
    else !hiddenName n && !(n = s "mmultiscripts") && OutL kids
def OutL : List Node → Bool
  | [] => true
  | k :: ks => Out k && OutL ks
end

theorem textOf_eq_visibleOutL (kids : List Node) (h : kids.all isText = true) : visibleOutL kids = textOf kids := by
  induction kids with
  | nil => rfl
  | cons k ks ih =>
    simp only [List.all_cons, Bool.and_eq_true] at h
    cases k with
    | text t => simp only [visibleOutL, visibleOut, textOf]; rw [ih h.2]
    | elem n a c => simp [isText] at h

theorem leaf_ne_mm (n : Str) (hl : isLeafName n = true) : n ≠ s "mmultiscripts" := by
  intro h; subst h; revert hl; decide +kernel

mutual
theorem visT_eq_visibleOut : (r : Node) → Out r = true → visT r = visibleOut r
  | .text t, h => by simp [Out] at h
  | .elem n attrs kids, h => by
    rw [Out] at h
    rw [visT, visibleOut]
    by_cases hl : isLeafName n = true
    · rw [if_pos hl] at h ⊢
      simp only [Bool.and_eq_true, Bool.or_eq_true] at h
      rw [if_neg (leaf_ne_mm n hl), textOf_eq_visibleOutL kids h.1]
      rcases h.2 with ht | he
      · rw [if_pos ht]
      · simp only [List.isEmpty_iff] at he; subst he; split <;> rfl
    · rw [if_neg hl] at h ⊢
      simp only [Bool.and_eq_true, Bool.not_eq_true', decide_eq_false_iff_not] at h
      obtain ⟨⟨hh, hm⟩, hk⟩ := h
      have hh' : (n = s "mphantom" || n = s "malignmark" || n = s "maligngroup") = false := by simpa [hiddenName] using hh
      rw [if_neg hm]
      simp only [hh']
      exact visTL_eq_visibleOutL kids hk
theorem visTL_eq_visibleOutL : (ks : List Node) → OutL ks = true → visTL ks = visibleOutL ks
  | [], _ => by rw [visTL, visibleOutL]
  | k :: ks, h => by
    rw [OutL, Bool.and_eq_true] at h
    rw [visTL, visibleOutL, visT_eq_visibleOut k h.1, visTL_eq_visibleOutL ks h.2]
end

mutual
/-- trimmed input over the modelled vocabulary: tokens hold text only, containers hold elements only -/
def In : Node → Bool
  | .text _ => false
  | .elem n _ kids => modelledEls.contains n && (if isLeafName n then kids.all isText else InL kids)
def InL : List Node → Bool
  | [] => true
  | k :: ks => In k && InL ks
end

theorem OutL_sublist {a b : List Node} (h : a.Sublist b) (hb : OutL b = true) : OutL a = true := by
  induction h with
  | slnil => rfl
  | cons x _ ih => rw [OutL, Bool.and_eq_true] at hb; exact ih hb.2
  | cons_cons x _ ih => rw [OutL, Bool.and_eq_true] at hb ⊢; exact ⟨hb.1, ih hb.2⟩

theorem out_leaf (n : Str) (attrs : List (Str × Str)) (t : Str) (hl : isLeafName n = true) (ht : tokenNames.contains n = true) : Out (leaf n attrs t) = true := by
  unfold leaf; rw [Out, if_pos hl, ht]; rfl

theorem out_makeEmpty (attrs : List (Str × Str)) : Out (makeEmpty attrs) = true := out_leaf _ _ _ leaf_mtext tok_mtext
theorem out_createEmpty : Out createEmpty = true := out_leaf _ _ _ leaf_mtext tok_mtext

theorem out_elem {n : Str} (attrs : List (Str × Str)) (kids : List Node) (hl : isLeafName n = false) (hh : hidden n = false)
    (hm : n ≠ s "mmultiscripts") : Out (.elem n attrs kids) = OutL kids := by
  rw [Out, if_neg (by simp [hl]), show hiddenName n = false from hh]; simp [hm]

theorem out_plain {n : Str} (h : n ∈ [s "mrow", s "msub", s "msup"]) (attrs : List (Str × Str)) (kids : List Node) :
    Out (.elem n attrs kids) = OutL kids :=
  out_elem attrs kids (plain_names n h).1 (plain_names n h).2.1 (plain_names n h).2.2

theorem out_mrow (attrs : List (Str × Str)) (kids : List Node) (h : OutL kids = true) : Out (.elem (s "mrow") attrs kids) = true := by
  rw [out_plain List.mem_cons_self, h]

theorem out_lift (attrs : List (Str × Str)) (k : Node) : Out (lift attrs k) = Out k := by
  cases k with
  | text t => rfl
  | elem n a kids => simp only [lift]; rw [Out, Out]

/-- the leaves of the modelled vocabulary are the four token names and `mspace` -/
theorem leaf_vocab (n : Str) (hv : modelledEls.contains n = true) (hl : isLeafName n = true) : n ∈ tokNames ∨ n = s "mspace" := by
  have names : ∀ m ∈ modelledEls, isLeafName m = true → m ∈ tokNames ∨ m = s "mspace" := by decide +kernel
  exact names n (by simpa using hv) hl

theorem leafShape_out {prc : Bool} {n : Str} {attrs : List (Str × Str)} {t : Str} {r : Node} (h : LeafShape prc n attrs t (some r))
    (hv : modelledEls.contains n = true) (hl : isLeafName n = true) : Out r = true := by
  cases h with
  | placeholder _ => exact out_makeEmpty attrs
  | signed _ _ _ => exact out_mrow _ _ (by simp only [OutL, out_leaf _ _ _ leaf_mo tok_mo, out_leaf _ _ _ leaf_mn tok_mn]; rfl)
  | token _ hn' _ => exact out_leaf _ _ _ (tokNames_leaf hn') (tokNames_tok hn')
  | space _ => exact out_leaf _ _ _ leaf_mtext tok_mtext
  | other h1 h2 => exact absurd (leaf_vocab n hv hl) (not_or.2 ⟨h1, h2⟩)

theorem assureOne_out (cs : List Node) (h : OutL cs = true) : OutL (assureOne cs) = true := by
  unfold assureOne
  split
  · simp [OutL, out_createEmpty]
  · exact h
  · simp only [OutL, Bool.and_true]; exact out_mrow _ _ h

theorem built_out {prc : Bool} {n : Str} {a : List (Str × Str)} {cs : List Node} {r : Node} (hb : Built prc n a cs (some r))
    (hl : isLeafName n = false) (hh : hidden n = false) (hm : n ≠ s "mmultiscripts") (hc : OutL cs = true) : Out r = true := by
  have hn : ∀ ks, Out (.elem n a ks) = OutL ks := fun ks => out_elem a ks hl hh hm
  cases hb with
  | placeholder _ => exact out_makeEmpty a
  | noneEl _ =>
    rw [Out, if_pos leaf_none]
    rfl
  | missing _ => exact out_createEmpty
  | bare _ _ =>
    rw [hn]
    rfl
  | first he _ =>
    subst he
    rw [OutL, Bool.and_eq_true] at hc
    exact hc.1
  | lifted he =>
    subst he
    rw [out_lift]
    rw [OutL, Bool.and_eq_true] at hc
    exact hc.1
  | row ht => exact out_mrow a _ (OutL_sublist ht.sublist hc)
  | wrapped ht _ =>
    rw [hn]
    exact assureOne_out _ (OutL_sublist ht.sublist hc)
  | script _ hn' ht _ =>
    rw [out_plain (.tail _ hn')]
    exact OutL_sublist ht.sublist hc
  | same _ =>
    rw [hn]
    exact hc

theorem vocab_ne_mm (n : Str) (hv : modelledEls.contains n = true) : n ≠ s "mmultiscripts" := by
  intro h; subst h; revert hv; decide +kernel

theorem out_kept : Kept (fun t o => In t = true → ∀ r, o = some r → Out r = true) (fun ks cs => InL ks = true → OutL cs = true) where
  text _ hin := by simp [In] at hin
  leaf hl ho hin r e := by
    rw [In, Bool.and_eq_true] at hin
    exact leafShape_out (e ▸ ho) hin.1 hl
  hid _ _ := ⟨fun _ _ e => (nomatch e), fun _ _ e => by cases e; exact out_makeEmpty _⟩
  built hl hh _ hc hb hin r e := by
    rw [In, Bool.and_eq_true, if_neg (by simp [hl])] at hin
    exact built_out (e ▸ hb) hl hh (vocab_ne_mm _ hin.1) (hc hin.2)
  missing _ := by simp [OutL, out_createEmpty]
  nil _ := rfl
  drop _ h2 h := by
    rw [InL, Bool.and_eq_true] at h
    exact h2 h.2
  keep h1 h2 h := by
    rw [InL, Bool.and_eq_true] at h
    rw [OutL, h1 h.1 _ rfl, h2 h.2]
    rfl

theorem clean_out (prc : Bool) (pn : Str) : (t : Node) → In t = true → (r : Node) → clean prc pn t = some r → Out r = true :=
  out_kept.holds prc pn
theorem cleanL_out (prc : Bool) (pn : Str) : (ts : List Node) → InL ts = true → OutL (cleanL prc pn ts) = true :=
  out_kept.holdsL prc pn

mutual
theorem trim_in : (t : Node) → vocabOk t = true → isText t = false → In (trim t) = true
  | .text _, _, h => by simp [isText] at h
  | .elem n attrs kids, hv, _ => by
    rw [vocabOk, Bool.and_eq_true] at hv
    rw [trim]
    by_cases hl : isLeafName n = true
    · -- a token keeps its name and holds no child or one text
      rw [if_pos hl]
      split <;> (rw [In, hv.1, if_pos hl]; rfl)
    · rw [if_neg hl, In, hv.1, if_neg hl, trimL_in kids hv.2]; rfl
theorem trimL_in : (ts : List Node) → vocabOkL ts = true → InL (trimL ts) = true
  | [], _ => by rw [trimL]; rfl
  | k :: ks, h => by
    rw [vocabOkL, Bool.and_eq_true] at h
    have h2 := trimL_in ks h.2
    cases k with
    | text t => simp only [trimL, List.nil_append]; exact h2
    | elem n a c =>
      simp only [trimL, List.singleton_append, InL, Bool.and_eq_true]
      exact ⟨trim_in (.elem n a c) h.1 rfl, h2⟩
end

/-- **the C01 checker accepts the skeleton's output**: for every `<math>` tree over the modelled vocabulary, `conserves` — the
executable checker that decides C01 on the implementation's outputs — answers `true` on the raw input and what `trim_element` +
the clean-up skeleton return -/
theorem conserves_cleanMath (n : Str) (attrs : List (Str × Str)) (kids : List Node) (r : Node) (hv : vocabOk (.elem n attrs kids) = true)
    (h : cleanMath (.elem n attrs kids) = some r) : conserves (.elem n attrs kids) r = true := by
  have hin := trim_in (.elem n attrs kids) hv rfl
  have hout := clean_out false (s "math") (trim (.elem n attrs kids)) hin r h
  have := cleanMath_conserves_spec (.elem n attrs kids) r hv h
  rw [visT_eq_visibleOut r hout] at this
  unfold conserves
  rw [this]; simp

end MC.Props.C01Clean
