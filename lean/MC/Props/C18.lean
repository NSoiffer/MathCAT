import MC.Spec.Variant
/-!
# C18 — mathvariant maps characters to the right Unicode math letters

Tables: `MC.Variant.tables` (regenerated from src/canonicalize.rs on every run) and `MC.Gen.Ucd` (python's Unicode
Character Database). Finite facts are decided over the *whole* table and lifted to all characters and strings.
-/
namespace MC.Props.C18
open MC.Variant MC.Spec.Variant

/-- every (variant, key) pair maps to the UCD character of that letter in that style, a documented fallback
style, or stays unchanged exactly where Unicode has nothing (and for plain-italic Latin). -/
theorem matches_ucd : allKeysOk tables = true := by decide +kernel

/-- keys are ordinary unstyled characters (needed to recover the original letter). -/
theorem keys_unstyled : keysUnstyled tables = true := by decide +kernel

/-- the legacy holes: every exception source has no entry in the UCD oracle (an unassigned code point), and its target is a
styled character whose base is a Latin letter. -/
theorem holes_mapped :
    tables.exceptions.all (fun (hole, tgt) =>
      (ucdInfo hole).isNone && (match ucdInfo tgt with | some (base, _) => latin base | none => false)) = true := by
  decide +kernel

/-- no Rust index panic: every table index is 0, 1 or 2. -/
theorem table_index_lt_three : tables.shiftAmounts.all (fun e => e.2.2 < 3) = true := by decide +kernel

/-- the Letterlike rows of the oracle are valid scalars (the block rows are by their range). -/
theorem letterlike_valid : MC.Gen.Ucd.letterlike.all (fun e => validScalar e.1) = true := by decide +kernel

/-- plain italic leaves Latin letters alone. -/
theorem italic_latin_unchanged :
    (match tables.variants.lookup (nm "italic") with
     | some starts => (tables.shiftAmounts.filter (fun e => latin e.1)).all (fun e => shiftChar tables starts e.1 == some e.1)
     | none => false) = true := by
  decide +kernel

/-- all 13 MathML variants the statement lists are mapped, and nothing else is. -/
theorem variants_are_the_thirteen :
    (tables.variants.map (·.1)).length = 13 ∧
    variantStyle.all (fun p => (tables.variants.lookup p.1).isSome) = true := by
  decide +kernel

theorem lookup_none_of_not_mem {α} (k : Nat) (l : List (Nat × α)) (h : k ∉ l.map (·.1)) : l.lookup k = none :=
  List.lookup_eq_none_iff.mpr fun _ hp => bne_iff_ne.mpr fun e => h (e ▸ List.mem_map_of_mem hp)

theorem lookup_mem {α} (k : Nat) (l : List (Nat × α)) (v : α) (h : l.lookup k = some v) : (k, v) ∈ l := by
  obtain ⟨l₁, l₂, rfl, _⟩ := List.lookup_eq_some_iff.mp h
  simp

/-- characters outside the key set are never touched (for every table, every variant). -/
theorem unchanged_outside (T : Tables) (starts : Nat × Nat × Nat) (c : Nat)
    (h : c ∉ keysOf T starts) : shiftChar T starts c = some c := by
  unfold keysOf at h
  simp only [List.mem_append, not_or] at h
  unfold shiftChar
  rw [lookup_none_of_not_mem c T.shiftAmounts h.1]
  by_cases hd : starts.2.2 = T.digammaStart
  · simp only [hd, if_true] at h ⊢
    rw [lookup_none_of_not_mem c T.digamma h.2]
  · simp [hd]

theorem keyOk_spec (T : Tables) (name : List Nat) (starts : Nat × Nat × Nat) (c : Nat)
    (h : keyOk T name starts c = true) :
    ∃ r, shiftChar T starts c = some r ∧ (r = c ∨ ∃ rs, ucdInfo r = some (c, rs)) := by
  unfold keyOk at h
  split at h
  · rename_i r hr
    refine ⟨r, hr, (Decidable.em (r = c)).imp_right fun hrc => ?_⟩
    -- for a changed character the oracle asks for the UCD entry of `r` with base `c`
    simp only [resultOk, beq_iff_eq, hrc, if_false] at h
    split at h
    · split at h
      · rename_i base rs hu
        simp only [Bool.and_eq_true, beq_iff_eq] at h
        exact ⟨rs, by rw [hu, h.1]⟩
      · cases h
    · cases h
  · cases h

theorem ucdInfo_valid (r : Nat) (x : Nat × Nat) (h : ucdInfo r = some x) : validScalar r = true := by
  unfold ucdInfo at h
  split at h
  next hb =>
    -- a character of the block U+1D400–U+1D7FF: below U+110000 and not a surrogate
    simp only [MC.Gen.Ucd.blockStart, MC.Gen.Ucd.blockLen, Bool.and_eq_true] at hb
    have h1 : 119808 ≤ r := of_decide_eq_true hb.1
    have h2 : r < 119808 + 1024 := of_decide_eq_true hb.2
    have h3 : r < 0x110000 ∧ (r < 0xD800 ∨ 0xE000 ≤ r) := by omega
    simpa [validScalar] using h3
  next => exact List.all_eq_true.mp letterlike_valid _ (lookup_mem _ _ _ h)   -- a row of the Letterlike table

/-- **C18, main statement.** For each of the 13 variants and EVERY character `c`: the model's output `r` is either `c`
itself, or the Unicode styled form whose `<font>` decomposition is exactly `c`; it is a valid scalar value if `c` is. -/
theorem shiftChar_sound (v : List Nat × Nat × Nat × Nat) (hv : v ∈ tables.variants) (c : Nat) :
    ∃ r, shiftChar tables v.2 c = some r ∧ (r = c ∨ ∃ rs, ucdInfo r = some (c, rs)) ∧
      (validScalar c = true → validScalar r = true) := by
  by_cases hk : c ∈ keysOf tables v.2
  · obtain ⟨r, hr, hor⟩ := keyOk_spec _ _ _ _ (List.all_eq_true.mp (List.all_eq_true.mp matches_ucd v hv) c hk)
    refine ⟨r, hr, hor, fun hc => ?_⟩
    rcases hor with rfl | ⟨rs, hu⟩
    · exact hc
    · exact ucdInfo_valid _ _ hu
  · exact ⟨c, unchanged_outside _ _ _ hk, Or.inl rfl, id⟩

/-- **one-to-one within a style**: on the keys a variant acts on, two different letters never get the same image,
so the original letter can always be recovered (it is the `<font>` base of the image). -/
theorem injective_on_keys (v : List Nat × Nat × Nat × Nat) (hv : v ∈ tables.variants) (c₁ c₂ : Nat)
    (h₁ : c₁ ∈ keysOf tables v.2) (h₂ : c₂ ∈ keysOf tables v.2)
    (heq : shiftChar tables v.2 c₁ = shiftChar tables v.2 c₂) : c₁ = c₂ := by
  obtain ⟨r₁, hr₁, ho₁, _⟩ := shiftChar_sound v hv c₁
  obtain ⟨r₂, hr₂, ho₂, _⟩ := shiftChar_sound v hv c₂
  obtain rfl : r₁ = r₂ := Option.some.inj (hr₁.symm.trans (heq.trans hr₂))
  have unst : ∀ c, c ∈ keysOf tables v.2 → ucdInfo c = none := by
    intro c hc
    have hc' : c ∈ tables.shiftAmounts.map (·.1) ++ tables.digamma.map (·.1) := by
      unfold keysOf at hc
      rw [List.mem_append] at hc ⊢
      exact hc.imp_right fun hc => by
        split at hc
        · exact hc
        · cases hc
    simpa using List.all_eq_true.mp keys_unstyled c hc'
  have recover : ∀ c r, c ∈ keysOf tables v.2 → (r = c ∨ ∃ rs, ucdInfo r = some (c, rs)) →
      c = (match ucdInfo r with | some x => x.1 | none => r) := by
    intro c r hc ho
    rcases ho with rfl | ⟨rs, hu⟩
    · rw [unst _ hc]
    · rw [hu]
  exact (recover c₁ r₁ h₁ ho₁).trans (recover c₂ r₁ h₂ ho₂).symm

theorem shiftText_map (T : Tables) (starts : Nat × Nat × Nat) (s r : List Nat)
    (h : shiftText T starts s = some r) : s.map (shiftChar T starts) = r.map some := by
  induction s generalizing r with
  | nil => cases h; rfl
  | cons c cs ih =>
    simp only [shiftText] at h
    split at h
    · rename_i d ds hd hds
      cases h
      simp only [List.map_cons, hd, ih ds hds]
    · cases h

/-- text level: the model never changes the number of characters. -/
theorem shiftText_length (T : Tables) (starts : Nat × Nat × Nat) (s r : List Nat)
    (h : shiftText T starts s = some r) : r.length = s.length := by
  simpa using (congrArg List.length (shiftText_map T starts s r h)).symm

/-- text level: it acts character-wise (`r[i]` is the image of `s[i]`). -/
theorem shiftText_pointwise (T : Tables) (starts : Nat × Nat × Nat) (s r : List Nat)
    (h : shiftText T starts s = some r) (i : Nat) (hi : i < s.length) :
    ∃ d, r[i]? = some d ∧ shiftChar T starts s[i] = some d := by
  have := congrArg (·[i]?) (shiftText_map T starts s r h)
  simp only [List.getElem?_map, List.getElem?_eq_getElem hi, Option.map_some] at this
  cases hr : r[i]? with
  | none => simp [hr] at this
  | some d => exact ⟨d, rfl, by simpa [hr] using this⟩

/-- no mathvariant attribute, or a value that is not one of the mapped ones: text is returned as is. -/
theorem unknown_variant_identity (T : Tables) (v : Option (List Nat)) (text : List Nat)
    (h : v = none ∨ ∃ n, v = some n ∧ T.variants.lookup n = none) : plane1 T v text = some text := by
  rcases h with h | ⟨n, hv, hn⟩
  · subst h; rfl
  · subst hv; simp [plane1, hn]

/-- no Rust index panic in `shift_char` when every table index is 0, 1 or 2 -/
theorem shiftChar_isSome (T : Tables) (hT : T.shiftAmounts.all (fun e => e.2.2 < 3) = true) (starts : Nat × Nat × Nat) (c : Nat) :
    (shiftChar T starts c).isSome = true := by
  unfold shiftChar
  split
  · split
    · split <;> rfl
    · rfl
  next off tbl hl =>
    have hlt : tbl < 3 := of_decide_eq_true (List.all_eq_true.mp hT _ (lookup_mem _ _ _ hl))
    -- so `startOf` answers one of the three starts, and both branches behind it (`start = 0` or not) return `some …`
    have h3 : tbl = 0 ∨ tbl = 1 ∨ tbl = 2 := by omega
    rcases h3 with rfl | rfl | rfl
    · simp only [startOf]; split <;> rfl
    · simp only [startOf]; split <;> rfl
    · simp only [startOf]; split <;> rfl

/-- with the generated tables `shift_text` never panics (no out-of-range table index), on any text and any starts. -/
theorem shiftText_total (starts : Nat × Nat × Nat) (s : List Nat) : (shiftText tables starts s).isSome = true := by
  induction s with
  | nil => rfl
  | cons c cs ih =>
    obtain ⟨d, hd⟩ := Option.isSome_iff_exists.mp (shiftChar_isSome tables table_index_lt_three starts c)
    obtain ⟨ds, hds⟩ := Option.isSome_iff_exists.mp ih
    simp only [shiftText, hd, hds]
    rfl

/-- non-vacuity: script 'B' is the Letterlike hole U+212C; bold digamma; italic leaves `h` alone and maps α. -/
example : plane1 tables (some (nm "script")) [66, 120] = some [0x212C, 0x1D4CD] := by decide +kernel
example : plane1 tables (some (nm "bold")) [0x3DC] = some [0x1D7CA] := by decide +kernel
example : plane1 tables (some (nm "italic")) [104, 0x3B1] = some [104, 0x1D6FC] := by decide +kernel

end MC.Props.C18
