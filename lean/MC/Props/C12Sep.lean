import MC.Props.C12
/-!
C12 / C16: **the derived separators are a function of the current preferences**, for every history.

`SepInv s`: whenever `DecimalSeparator` holds one of its three documented values, `DecimalSeparators` and `BlockSeparators` are exactly
`deriveSeparators` of the language in force (`Language`, or for `Auto` the host's `LanguageAuto`, or English before the host gave one)
and that value.  It holds after `set_rules_dir` and is kept by every accepted `set_preference` that does not write one of the two
derived preferences directly.
-/
namespace MC.Props.C12Sep
open MC.Prefs MC.Props.C12

/-- the preferences that live in the user map as text -/
def userText : List String := ["Language", "DecimalSeparator", "DecimalSeparators", "BlockSeparators"]

/-- the five preferences the invariant reads -/
def five : List String := userText ++ ["LanguageAuto"]

structure Shape (s : PState) : Prop where
  api_none : ∀ k ∈ userText, pget s.api k = none
  user_str : ∀ k ∈ userText, ∃ t, pget s.user k = some (.str t)
  la_api : ∀ b, pget s.api "LanguageAuto" ≠ some (.bool b)
  la_user : ∀ b, pget s.user "LanguageAuto" ≠ some (.bool b)

/-- the language in force -/
def curLanguage (s : PState) : String := effLanguage s ((prefToString s "Language").getD "en")

def SepInv (s : PState) : Prop :=
  ∀ d, prefToString s "DecimalSeparator" = some d → validDec d = true →
    prefToString s "DecimalSeparators" = some (deriveSeparators (curLanguage s) d).1 ∧
    prefToString s "BlockSeparators" = some (deriveSeparators (curLanguage s) d).2

theorem userText_sub_five (k : String) (h : k ∉ five) : k ∉ userText :=
  fun hk => h (List.mem_append_left _ hk)

theorem curLanguage_congr (s s' : PState) (h1 : prefToString s' "Language" = prefToString s "Language")
    (h2 : prefToString s' "LanguageAuto" = prefToString s "LanguageAuto") : curLanguage s' = curLanguage s := by
  unfold curLanguage effLanguage; rw [h1, h2]

theorem curLanguage_of (s : PState) (L : String) (h : prefToString s "Language" = some L) : curLanguage s = effLanguage s L := by
  unfold curLanguage; rw [h]; rfl

theorem effLanguage_notAuto (s : PState) (L : String) (h : L ≠ "Auto") : effLanguage s L = L := by
  unfold effLanguage; simp [h]

theorem effLanguage_auto (s : PState) (v : String) (h : prefToString s "LanguageAuto" = some v) (h1 : v ≠ "") (h2 : v ≠ noPreference) :
    effLanguage s "Auto" = v := by
  unfold effLanguage; simp [h, h1, h2]

theorem sepInv_congr (s s' : PState) (h : ∀ k ∈ five, prefToString s' k = prefToString s k) (hi : SepInv s) : SepInv s' := by
  intro d hd hv
  rw [h "DecimalSeparator" (by decide)] at hd
  rw [h "DecimalSeparators" (by decide), h "BlockSeparators" (by decide),
    curLanguage_congr s s' (h "Language" (by decide)) (h "LanguageAuto" (by decide))]
  exact hi d hd hv

theorem Shape.text {s : PState} (hs : Shape s) (k : String) (hk : k ∈ userText) :
    ∃ t, pget s.user k = some (.str t) ∧ prefToString s k = some t := by
  obtain ⟨t, ht⟩ := hs.user_str k hk
  exact ⟨t, ht, by rw [prefToString_user _ _ (hs.api_none k hk), ht]; rfl⟩

theorem shape_setSeparators (s : PState) (L : String) (hs : Shape s) : Shape (setSeparators s L) := by
  refine ⟨?_, fun k hk => setSeparators_str s L k (hs.user_str k hk), ?_, ?_⟩
  · intro k hk; rw [setSeparators_api]; exact hs.api_none k hk
  · intro b; rw [setSeparators_api]; exact hs.la_api b
  · intro b; rw [setSeparators_user_other _ _ _ (by decide) (by decide)]; exact hs.la_user b

theorem shape_user_write (s : PState) (k v : String) (hs : Shape s) : Shape { s with user := pset s.user k (.str v) } := by
  refine ⟨hs.api_none, fun k' hk' => pset_str _ _ _ _ (hs.user_str k' hk'), hs.la_api, ?_⟩
  intro b
  simp only [pget_pset]
  split
  · simp
  · exact hs.la_user b

theorem shape_api_write (s : PState) (k : String) (x : Val) (hs : Shape s) (hk : k ∉ userText)
    (hla : k = "LanguageAuto" → ∀ b, x ≠ .bool b) : Shape { s with api := pset s.api k x } := by
  refine ⟨?_, hs.user_str, ?_, hs.la_user⟩
  · intro k' hk'
    have : k' ≠ k := fun h => hk (h ▸ hk')
    simp only; rw [pget_pset_other _ _ _ _ this]; exact hs.api_none k' hk'
  · intro b
    simp only [pget_pset]
    split
    · rename_i h; intro hx; injection hx with hx; exact hla h.symm b hx
    · exact hs.la_api b

/-- under `Shape` the writes of `setStringPref_writes` are determined: `s2` is the state before the recomputation, which happens for
a changed `Language` or `DecimalSeparator` and for `LanguageAuto` -/
theorem setStringPref_shape (E : Env) (s s' : PState) (k v : String) (hs : Shape s) (h : setStringPref E s k v = .ok s') :
    ∃ d l s2, prefToString s "DecimalSeparator" = some d ∧ prefToString s "Language" = some l ∧ Shape s2 ∧
      (∀ k', prefToString s2 k' = if k' = k then some v
        else if k' = "LanguageAuto" ∧ k = "Language" ∧ v = "Auto" ∧ l ≠ v then some l else prefToString s k') ∧
      ((s' = s2 ∧ k ≠ "LanguageAuto" ∧ (k = "Language" → l = v) ∧ (k = "DecimalSeparator" → d = v)) ∨
       ∃ L, s' = setSeparators s2 L ∧ (prefToString s2 "Language" = some L ∨ (k = "LanguageAuto" ∧ L = v))) := by
  obtain ⟨d, hd, rd⟩ := hs.text "DecimalSeparator" (by decide)
  obtain ⟨l, hl, rl⟩ := hs.text "Language" (by decide)
  refine ⟨d, l, ?_⟩
  obtain ⟨w, s1, s2, e1, hcase, rfl⟩ := setStringPref_ok E s s' k v h
  rcases hcase with ⟨hw, rfl⟩ | ⟨hnone, hw, hst⟩
  · -- the key is in the API map: none of the four texts, so nothing is saved and nothing recomputed but for `LanguageAuto`
    have hk : k ∉ userText := fun hk => by rw [hs.api_none k hk] at hw; cases hw
    have hkL : k ≠ "Language" := fun e => hk (by simp [userText, e])
    have hkD : k ≠ "DecimalSeparator" := fun e => hk (by simp [userText, e])
    rw [if_neg (fun hh => hkL hh.1)] at e1
    subst e1
    refine ⟨{ s1 with api := pset s1.api k (.str v) }, rd, rl, shape_api_write _ _ _ hs hk (fun _ b => by simp), fun k' => ?_, ?_⟩
    · simp only [hkL, false_and, and_false, if_false]
      exact read_api_write s1 k k' _
    · split
      next e => exact Or.inr ⟨v, rfl, Or.inr ⟨e, rfl⟩⟩
      next e => exact Or.inl ⟨rfl, e, fun e' => absurd e' hkL, fun e' => absurd e' hkD⟩
  · -- the key is in the user map: for `Language` the value found is `l`, which `Language := Auto` saves
    have hs1 : s1 = if k = "Language" ∧ v = "Auto" ∧ l ≠ v then { s with api := pset s.api "LanguageAuto" (.str l) } else s := by
      rw [e1]
      by_cases hc : k = "Language"
      · subst hc
        rw [hl] at hw ⊢
        cases hw
        rfl
      · rw [if_neg (fun hh => hc hh.1), if_neg (fun hh => hc hh.1)]
    have hs1' : Shape s1 ∧ s1.user = s.user ∧ pget s1.api k = none := by
      rw [hs1]
      split
      next hc =>
        have hkA : k ≠ "LanguageAuto" := by rw [hc.1]; decide
        exact ⟨shape_api_write _ _ _ hs (by decide) (fun _ b => by simp), rfl, (pget_pset_other _ _ _ _ hkA).trans hnone⟩
      next => exact ⟨hs, rfl, hnone⟩
    obtain ⟨hsh1, hu1, hnone1⟩ := hs1'
    rw [storeUser_eq s1 k v d l (hu1 ▸ hd) (hu1 ▸ hl)] at hst
    cases hst
    -- `W`, the state after the write to the user map, reads as claimed
    have hr2 : ∀ k', prefToString { s1 with user := pset s1.user k (.str v) } k' = if k' = k then some v
        else if k' = "LanguageAuto" ∧ k = "Language" ∧ v = "Auto" ∧ l ≠ v then some l else prefToString s k' := by
      intro k'
      rw [read_user_write, hnone1, hs1]
      by_cases e : k' = k
      · simp [e, Val.render]
      · simp only [e, false_and, if_false]
        split
        next hc =>
          obtain ⟨rfl, rfl, hlv⟩ := hc
          rw [read_api_write]; simp [hlv, Val.render]
        next hc => rw [if_neg (fun hh => hc hh.2)]
    refine ⟨_, rd, rl, shape_user_write s1 k v hsh1, hr2, ?_⟩
    by_cases eA : k = "LanguageAuto"
    · -- `LanguageAuto`: `storeUser` recomputes nothing, `set_string_pref` then does, for the new value
      subst eA
      exact Or.inr ⟨v, by simp, Or.inr ⟨rfl, rfl⟩⟩
    · rw [if_neg eA]
      split
      next hc =>
        -- a changed `Language` or `DecimalSeparator`: recomputed for `Language` as it reads after the write
        refine Or.inr ⟨_, rfl, Or.inl ?_⟩
        rcases hc with ⟨rfl, _⟩ | ⟨rfl, _⟩
        · rw [hr2, if_neg (by decide), if_neg (fun hh => absurd hh.2.1 (by decide)), if_neg (by decide)]; exact rl
        · rw [hr2, if_pos rfl, if_pos rfl]
      next hc =>
        exact Or.inl ⟨rfl, eA, fun e => Decidable.not_not.mp fun hne => hc (Or.inr ⟨e, hne⟩),
          fun e => Decidable.not_not.mp fun hne => hc (Or.inl ⟨e, hne⟩)⟩

theorem bool_not_five (s : PState) (n : String) (hs : Shape s) (h : isBooleanPref s n = some true) : n ∉ five := by
  intro hn
  have hb := isBooleanPref_true s n h
  rcases List.mem_append.mp hn with hu | hu
  · obtain ⟨t, ht⟩ := hs.user_str n hu
    rw [hs.api_none n hu, ht] at hb
    rcases hb with ⟨b, hb⟩ | ⟨_, b, hb⟩ <;> cases hb
  · rw [List.mem_singleton.mp hu] at hb
    rcases hb with ⟨b, hb⟩ | ⟨_, b, hb⟩
    · exact hs.la_api b hb
    · exact hs.la_user b hb

theorem float_not_five (n : String) (h : MC.Gen.Prefs.floatNames.contains n = true) : n ∉ five := by
  intro hn
  have : ∀ k ∈ five, MC.Gen.Prefs.floatNames.contains k = false := by decide
  rw [this n hn] at h
  cases h

theorem setPreference_shape (E : Env) (s s' : PState) (n v : String) (hs : Shape s) (h : setPreference E s n v = .ok s') :
    (n ∉ five ∧ ∃ x, s' = { s with api := pset s.api n x }) ∨ setStringPref E s n (storedValue n v) = .ok s' := by
  obtain ⟨v', rfl, _, _, hcase⟩ := setPreference_cases E s s' n v h
  rcases hcase with ⟨hf, f, _, e⟩ | ⟨_, _, hb, e⟩ | ⟨_, _, hsp⟩
  · exact Or.inl ⟨float_not_five n hf, _, e⟩
  · exact Or.inl ⟨bool_not_five s n hs hb, _, e⟩
  · exact Or.inr hsp

theorem shape_step (E : Env) (s s' : PState) (n v : String) (hs : Shape s) (h : setPreference E s n v = .ok s') : Shape s' := by
  rcases setPreference_shape E s s' n v hs h with ⟨hn, x, rfl⟩ | hsp
  · exact shape_api_write _ _ _ hs (userText_sub_five n hn) (fun e => absurd (by simp [five, e]) hn)
  · obtain ⟨d, l, s2, _, _, hs2, _, ⟨rfl, _⟩ | ⟨L, rfl, _⟩⟩ := setStringPref_shape E s s' n _ hs hsp
    · exact hs2
    · exact shape_setSeparators _ _ hs2

/-- after a recomputation with the language in force the invariant holds, whatever was there before -/
theorem sepInv_recompute (s : PState) (L : String) (hs : Shape s) (hL : effLanguage s L = curLanguage s) : SepInv (setSeparators s L) := by
  have ha := setSeparators_api s L
  have hcur : curLanguage (setSeparators s L) = curLanguage s :=
    curLanguage_congr _ _ (read_setSeparators _ _ _ (by decide) (by decide)) (read_setSeparators _ _ _ (by decide) (by decide))
  intro d hd hv
  rw [read_setSeparators _ _ _ (by decide) (by decide)] at hd
  rw [hcur]
  have hdec : (prefToString s "DecimalSeparator").getD noPreference = d := by rw [hd]; rfl
  have e1 : pget (setSeparators s L).api "DecimalSeparators" = none := by rw [ha]; exact hs.api_none _ (by decide)
  have e2 : pget (setSeparators s L).api "BlockSeparators" = none := by rw [ha]; exact hs.api_none _ (by decide)
  rw [prefToString_user _ _ e1, prefToString_user _ _ e2]
  unfold setSeparators
  simp only [hdec, hv, Bool.not_true, Bool.false_eq_true, if_false, hL]
  constructor
  · rw [pget_pset_other _ _ _ _ (by decide), pget_pset_same]; rfl
  · rw [pget_pset_same]; rfl

theorem sepInv_step (E : Env) (s s' : PState) (n v : String) (hs : Shape s) (hi : SepInv s)
    (h : setPreference E s n v = .ok s') (h1 : n ≠ "DecimalSeparators") (h2 : n ≠ "BlockSeparators") : SepInv s' := by
  rcases setPreference_shape E s s' n v hs h with ⟨hn, x, rfl⟩ | hsp
  · exact sepInv_congr _ _ (fun k' hk' => by rw [read_api_write, if_neg (fun e : k' = n => hn (e ▸ hk'))]) hi
  · generalize hv' : storedValue n v = v' at hsp
    obtain ⟨d, l, s2, rd, rl, hs2, hr2, ⟨rfl, hnA, hL, hD⟩ | ⟨L, rfl, hL⟩⟩ := setStringPref_shape E s s' n v' hs hsp
    · -- no recomputation: the value written is the one that was there, or the preference is none of the five
      refine sepInv_congr s s' (fun k' hk' => ?_) hi
      rw [hr2, if_neg (fun hh : k' = "LanguageAuto" ∧ n = "Language" ∧ v' = "Auto" ∧ l ≠ v' => hh.2.2.2 (hL hh.2.1))]
      split
      next e =>
        subst e
        simp only [five, userText, List.mem_append, List.mem_cons, List.not_mem_nil, or_false] at hk'
        rcases hk' with (rfl | rfl | rfl | rfl) | rfl
        · rw [rl, hL rfl]
        · rw [rd, hD rfl]
        · exact absurd rfl h1
        · exact absurd rfl h2
        · exact absurd rfl hnA
      next => rfl
    · -- the separators were recomputed, and for the language in force
      refine sepInv_recompute s2 L hs2 ?_
      rcases hL with hL | ⟨rfl, rfl⟩
      · -- for `Language` as it reads after the write
        exact (curLanguage_of s2 L hL).symm
      · -- for the host's language `v'`, which is in force because `Language` reads `Auto`
        obtain ⟨_, hv1, hv2, hv3, hlang⟩ := languageAuto_request E s _ v h
        rw [hv'] at hv1 hv2 hv3
        have hlang2 : prefToString s2 "Language" = some "Auto" := by
          rw [hr2, if_neg (by decide), if_neg (fun hh => absurd hh.1 (by decide))]; exact hlang
        rw [curLanguage_of s2 "Auto" hlang2, effLanguage_notAuto _ _ hv1, effLanguage_auto _ _ (by rw [hr2, if_pos rfl]) hv2 hv3]

/-- **the host's route selects the host's language** (C15's second way of selecting a language): once `LanguageAuto = v` is accepted,
the language in force — the one the separators are derived from — is the normalised `v` -/
theorem languageAuto_in_force (E : Env) (s s' : PState) (v : String) (hs : Shape s) (h : setPreference E s "LanguageAuto" v = .ok s') :
    ∃ v', normLanguage v = some v' ∧ prefToString s' "LanguageAuto" = some v' ∧ prefToString s' "Language" = some "Auto" ∧
      curLanguage s' = v' := by
  obtain ⟨hn, _, hv2, hv3, hlang⟩ := languageAuto_request E s s' v h
  have hsp := (setPreference_shape E s s' "LanguageAuto" v hs h).resolve_left (fun hh => hh.1 (by decide))
  have hrb := setStringPref_reads E s s' _ _ "LanguageAuto" hsp (Or.inl rfl)
  have hfr : prefToString s' "Language" = some "Auto" := by
    rw [setStringPref_reads E s s' _ _ "Language" hsp (Or.inr (by decide)), if_neg (by decide), hlang]
  rw [if_pos rfl] at hrb
  exact ⟨_, hn, hrb, hfr, by rw [curLanguage_of _ _ hfr, effLanguage_auto _ _ hrb hv2 hv3]⟩

/-- requests that leave the two derived preferences alone -/
def indirect (ops : List (String × String)) : Prop := ∀ op ∈ ops, op.1 ≠ "DecimalSeparators" ∧ op.1 ≠ "BlockSeparators"

theorem shape_init : Shape initState := by
  obtain ⟨_, hapi, hL, hLA, hD, hDs, hBs⟩ := initState_reads
  refine ⟨by rw [hapi]; decide, ?_, by rw [hapi]; decide, by rw [hLA]; simp⟩
  intro k hk
  simp only [userText, List.mem_cons, List.not_mem_nil, or_false] at hk
  rcases hk with rfl | rfl | rfl | rfl
  · exact ⟨_, hL⟩
  · exact ⟨_, hD⟩
  · exact ⟨_, hDs⟩
  · exact ⟨_, hBs⟩

/-- before the host gives its language, `Language = Auto` stands for English -/
theorem curLanguage_init : curLanguage initState = "en" := by
  have h2 : prefToString initState "LanguageAuto" = some "" := by
    rw [prefToString_user _ _ (by rw [initState_reads.2.1]; decide), initState_reads.2.2.2.1]; rfl
  rw [curLanguage_of _ _ initState_language]
  unfold effLanguage
  simp [h2]

theorem sepInv_init : SepInv initState := by
  obtain ⟨_, _, _, _, hD, hDs, hBs⟩ := initState_reads
  have rd : ∀ k ∈ userText, prefToString initState k = (pget initState.user k).map Val.render :=
    fun k hk => prefToString_user _ _ (shape_init.api_none k hk)
  intro d hd hv
  rw [rd _ (by decide), hD] at hd
  injection hd with hd
  subst hd
  rw [curLanguage_init, rd _ (by decide), rd _ (by decide), hDs, hBs]
  decide +kernel

/-- **C12 / C16: the separators follow the current preferences after every history** of requests — accepted or rejected, in any
order, through `Language` or through `Language = Auto` + `LanguageAuto` — that never writes the two derived preferences directly -/
theorem separators_follow_preferences (E : Env) (ops : List (String × String)) (hops : indirect ops) :
    SepInv (runOps E initState ops) :=
  (runOps_invariant E (fun s => Shape s ∧ SepInv s) ops
    (fun op hop s s' h hs => ⟨shape_step E s s' _ _ hs.1 h, sepInv_step E s s' _ _ hs.1 hs.2 h (hops op hop).1 (hops op hop).2⟩)
    _ ⟨shape_init, sepInv_init⟩).2

/-- **route independence** of the two derived separators -/
theorem separators_route_independent (E : Env) (ops1 ops2 : List (String × String)) (h1 : indirect ops1) (h2 : indirect ops2)
    (d : String) (hv : validDec d = true)
    (hd1 : prefToString (runOps E initState ops1) "DecimalSeparator" = some d)
    (hd2 : prefToString (runOps E initState ops2) "DecimalSeparator" = some d)
    (hL : prefToString (runOps E initState ops1) "Language" = prefToString (runOps E initState ops2) "Language")
    (hA : prefToString (runOps E initState ops1) "LanguageAuto" = prefToString (runOps E initState ops2) "LanguageAuto") :
    prefToString (runOps E initState ops1) "DecimalSeparators" = prefToString (runOps E initState ops2) "DecimalSeparators" ∧
    prefToString (runOps E initState ops1) "BlockSeparators" = prefToString (runOps E initState ops2) "BlockSeparators" := by
  have i1 := separators_follow_preferences E ops1 h1 d hd1 hv
  have i2 := separators_follow_preferences E ops2 h2 d hd2 hv
  rw [i1.1, i1.2, i2.1, i2.2, curLanguage_congr _ _ hL hA]
  exact ⟨rfl, rfl⟩

/-- the test vectors below, decided together: what costs is the evaluation of the shipped prefs.yaml, and they share it -/
theorem route_vectors :
    (prefToString (runOps envAll initState [("LanguageAuto", "de-CH")]) "LanguageAuto" = some "de-CH" ∧
      prefToString (runOps envAll initState [("LanguageAuto", "de-CH")]) "DecimalSeparators" = some "," ∧
      prefToString (runOps envAll initState [("LanguageAuto", "de-CH")]) "BlockSeparators" = some ". \u00A0\u202F'") ∧
    (prefToString (runOps envAll initState [("Language", "de-ch")]) "BlockSeparators" = some ". \u00A0\u202F'" ∧
      prefToString (runOps envAll initState [("DecimalSeparator", "."), ("Language", "fi"), ("Language", "Auto"), ("LanguageAuto", "de-ch"),
        ("DecimalSeparator", "Auto")]) "BlockSeparators" = some ". \u00A0\u202F'") ∧
    prefToString (runOps envAll initState [("DecimalSeparators", ";")]) "DecimalSeparator" = some "Auto" ∧
    prefToString (runOps envAll initState [("DecimalSeparators", ";")]) "DecimalSeparators" ≠
      some (deriveSeparators (curLanguage (runOps envAll initState [("DecimalSeparators", ";")])) "Auto").1 := by decide +kernel

/-- the host's route: `Language = Auto` (the shipped default), then `LanguageAuto = de-CH` — accepted, and the Swiss separators are in force -/
example : prefToString (runOps envAll initState [("LanguageAuto", "de-CH")]) "LanguageAuto" = some "de-CH" ∧
    prefToString (runOps envAll initState [("LanguageAuto", "de-CH")]) "DecimalSeparators" = some "," ∧
    prefToString (runOps envAll initState [("LanguageAuto", "de-CH")]) "BlockSeparators" = some ". \u00A0\u202F'" := route_vectors.1

/-- the same separators through `Language = de-ch`, and after detours -/
example : prefToString (runOps envAll initState [("Language", "de-ch")]) "BlockSeparators" = some ". \u00A0\u202F'" ∧
    prefToString (runOps envAll initState [("DecimalSeparator", "."), ("Language", "fi"), ("Language", "Auto"), ("LanguageAuto", "de-ch"),
      ("DecimalSeparator", "Auto")]) "BlockSeparators" = some ". \u00A0\u202F'" := route_vectors.2.1

/-- the hypothesis `indirect` is needed: a direct write of a derived preference is accepted and breaks the invariant -/
example : ¬ SepInv (runOps envAll initState [("DecimalSeparators", ";")]) :=
  fun h => route_vectors.2.2.2 (h "Auto" route_vectors.2.2.1 (by decide)).1

end MC.Props.C12Sep
