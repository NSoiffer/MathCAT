import MC.Model.Fallback
/-!
# C15 — every shipped language, style and braille code loads: the fallback chain

Theorems about `MC.Fallback` for EVERY directory listing, language tag and file name.
-/
namespace MC.Props.C15
open MC.Fallback

theorem firstDir_spec (fs : FS) (sub : String) : ∀ (k : Nat) (comps : List String) (p : Path),
    firstDir fs sub k comps = some p → fs.isDir p = true ∧ ∃ j, 1 ≤ j ∧ j ≤ k ∧ p = sub :: comps.take j
  | 0, _, _, h => by simp [firstDir] at h
  | k + 1, comps, p, h => by
    simp only [firstDir] at h
    split at h
    · rename_i hd
      cases h
      exact ⟨hd, k + 1, by omega, by omega, rfl⟩
    · obtain ⟨h1, j, hj1, hj2, hp⟩ := firstDir_spec fs sub k comps p h
      exact ⟨h1, j, hj1, by omega, hp⟩

theorem firstDir_eq_none (fs : FS) (sub : String) (comps : List String) (k : Nat)
    (hno : ∀ j, 1 ≤ j → j ≤ k → fs.isDir (sub :: comps.take j) = false) : firstDir fs sub k comps = none := by
  cases h : firstDir fs sub k comps with
  | none => rfl
  | some p =>
    obtain ⟨hp, j, hj1, hj2, e⟩ := firstDir_spec fs sub k comps p h
    rw [e, hno j hj1 hj2] at hp
    cases hp

theorem firstDir_self (fs : FS) (sub : String) (comps : List String) (hne : comps ≠ []) (hd : fs.isDir (sub :: comps) = true) :
    firstDir fs sub comps.length comps = some (sub :: comps) := by
  cases comps with
  | nil => exact absurd rfl hne
  | cons c r => simp [firstDir, hd]

theorem getLanguageDir_exact (fs : FS) (sub : String) (comps : List String) (dflt : Option (List String)) (hne : comps ≠ [])
    (hd : fs.isDir (sub :: comps) = true) : getLanguageDir fs sub comps dflt = .ok (sub :: comps) := by
  simp [getLanguageDir, firstDir_self fs sub comps hne hd]

/-- **a regional variant falls back to the language**: `xx-yy` with no `xx/yy` directory resolves to `xx` -/
theorem regional_falls_back (fs : FS) (sub l r : String) (dflt : Option (List String))
    (hno : fs.isDir [sub, l, r] = false) (hyes : fs.isDir [sub, l] = true) :
    getLanguageDir fs sub [l, r] dflt = .ok [sub, l] := by
  simp [getLanguageDir, firstDir, hno, hyes]

/-- **an unknown language falls back to the default** -/
theorem unknown_falls_back (fs : FS) (sub : String) (comps d : List String) (hne : d ≠ [])
    (hno : ∀ j, 1 ≤ j → j ≤ comps.length → fs.isDir (sub :: comps.take j) = false) (hd : fs.isDir (sub :: d) = true) :
    getLanguageDir fs sub comps (some d) = .ok (sub :: d) := by
  simp [getLanguageDir, firstDir_eq_none fs sub comps _ hno, firstDir_self fs sub d hne hd]

/-- with the default language directory present, a directory is found for EVERY language tag -/
theorem getLanguageDir_total (fs : FS) (sub : String) (d : List String) (hne : d ≠ []) (hd : fs.isDir (sub :: d) = true)
    (comps : List String) : getLanguageDir fs sub comps (some d) ≠ .err := by
  unfold getLanguageDir
  cases firstDir fs sub comps.length comps with
  | some p => simp
  | none => simp [firstDir_self fs sub d hne hd]

theorem walkUp_first (fs : FS) (fileName : String) (style : Bool) (f : Nat) (p : Path) (alt : Option Path)
    (hf : fs.isFile (p ++ [fileName]) = true) (hp : p ≠ []) :
    (walkUp fs fileName style (f + 1) p alt).1 = some (p ++ [fileName]) := by
  have : p.isEmpty = false := by cases p with | nil => exact absurd rfl hp | cons _ _ => rfl
  simp [walkUp, hf, this]

theorem findFileIn_own (fs : FS) (dir : Path) (fileName : String) (hf : fs.isFile (dir ++ [fileName]) = true) (hne : dir ≠ []) :
    findFileIn fs dir fileName = some (dir ++ [fileName]) := by
  simp [findFileIn, walkUp_first fs fileName _ _ dir none hf hne]

/-- a file in the language's own directory is the one chosen -/
theorem findFile_prefers_language (fs : FS) (sub : String) (comps : List String) (dflt : Option (List String)) (fileName : String)
    (hne : comps ≠ []) (hd : fs.isDir (sub :: comps) = true) (hf : fs.isFile (sub :: comps ++ [fileName]) = true) :
    findFile fs sub comps dflt fileName = .ok (sub :: comps ++ [fileName]) := by
  simp [findFile, getLanguageDir_exact fs sub comps dflt hne hd, findFileIn_own fs (sub :: comps) fileName hf]

/-- **nothing fails while the default is complete**: if the default language (code) directory exists and holds the file,
`find_file` returns a file for EVERY language tag (known, regional, unknown, empty) -/
theorem findFile_total (fs : FS) (sub : String) (d : List String) (fileName : String) (hne : d ≠ [])
    (hd : fs.isDir (sub :: d) = true) (hf : fs.isFile (sub :: d ++ [fileName]) = true) (comps : List String) :
    findFile fs sub comps (some d) fileName ≠ .err := by
  unfold findFile
  cases h : getLanguageDir fs sub comps (some d) with
  | err => exact absurd h (getLanguageDir_total fs sub d hne hd comps)
  | ok dir =>
    -- whatever the language's directory lacks is looked for in the default's
    cases h2 : findFileIn fs dir fileName with
    | some p => simp [h2]
    | none => simp [h2, getLanguageDir_exact fs sub d none hne hd, findFileIn_own fs (sub :: d) fileName hf]

/-- non-vacuity: a two-language tree; `en-gb` has only its own unicode.yaml, `xx` is unknown -/
def demo : FS := { dirs := [["Languages"], ["Languages", "en"], ["Languages", "en", "gb"], ["Languages", "fi"]],
                   files := [["Languages", "en", "unicode.yaml"], ["Languages", "en", "gb", "unicode.yaml"], ["Languages", "en", "navigate.yaml"], ["intent.yaml"]] }
example : findFile demo "Languages" ["en", "gb"] (some ["en"]) "unicode.yaml" = .ok ["Languages", "en", "gb", "unicode.yaml"] := by decide
example : findFile demo "Languages" ["en", "gb"] (some ["en"]) "navigate.yaml" = .ok ["Languages", "en", "navigate.yaml"] := by decide
example : findFile demo "Languages" ["xx"] (some ["en"]) "navigate.yaml" = .ok ["Languages", "en", "navigate.yaml"] := by decide
example : findFile demo "Languages" ["fi"] (some ["en"]) "intent.yaml" = .ok ["intent.yaml"] := by decide

end MC.Props.C15
