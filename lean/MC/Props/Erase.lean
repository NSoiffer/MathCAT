import MC.Props.Edit
/-!
`Erase X s t`: `t` is obtained from `s` by replacing some characters of the class `X` by arbitrary strings (deleting them,
substituting them, expanding them) and copying every other character. Such a rewriting keeps every `X`-free run of `s`
as a contiguous run of `t` (`Erase.keeps_infix`) — the shape of the braille clean-up phases.
-/
namespace MC

inductive Erase (X : Nat → Bool) : List Nat → List Nat → Prop where
  | nil : Erase X [] []
  | keep (c : Nat) {s t : List Nat} : Erase X s t → Erase X (c :: s) (c :: t)
  | rep (x : Nat) (wd : List Nat) {s t : List Nat} : X x = true → Erase X s t → Erase X (x :: s) (wd ++ t)

namespace Erase
variable {X : Nat → Bool}

theorem refl : ∀ s : List Nat, Erase X s s
  | [] => .nil
  | c :: r => .keep c (refl r)

theorem del (x : Nat) {s t : List Nat} (hx : X x = true) (h : Erase X s t) : Erase X (x :: s) t :=
  Erase.rep x [] hx h

theorem sub (x y : Nat) {s t : List Nat} (hx : X x = true) (h : Erase X s t) : Erase X (x :: s) (y :: t) :=
  Erase.rep x [y] hx h

theorem append {s t s' t' : List Nat} (h : Erase X s t) (h' : Erase X s' t') : Erase X (s ++ s') (t ++ t') := by
  induction h with
  | nil => exact h'
  | keep c _ ih => exact .keep c ih
  | rep x wd hx _ ih => rw [List.cons_append, List.append_assoc]; exact .rep x wd hx ih

theorem split : ∀ (a b u : List Nat), Erase X (a ++ b) u → ∃ u1 u2, u = u1 ++ u2 ∧ Erase X a u1 ∧ Erase X b u2
  | [], b, u, h => ⟨[], u, rfl, .nil, h⟩
  | c :: a, b, u, h => by
    cases h with
    | keep _ h' =>
      obtain ⟨u1, u2, rfl, h1, h2⟩ := split a b _ h'
      exact ⟨c :: u1, u2, rfl, .keep c h1, h2⟩
    | rep _ wd hx h' =>
      obtain ⟨u1, u2, rfl, h1, h2⟩ := split a b _ h'
      exact ⟨wd ++ u1, u2, (List.append_assoc ..).symm, .rep c wd hx h1, h2⟩

theorem trans {s t u : List Nat} (h1 : Erase X s t) (h2 : Erase X t u) : Erase X s u := by
  induction h1 generalizing u with
  | nil => exact h2
  | keep c _ ih =>
    cases h2 with
    | keep _ h' => exact .keep c (ih h')
    | rep _ wd hx h' => exact .rep c wd hx (ih h')
  | rep x wd hx _ ih =>
    obtain ⟨u1, u2, rfl, _, h2⟩ := split wd _ u h2
    exact .rep x u1 hx (ih h2)

theorem mono {Y : Nat → Bool} (hxy : ∀ c, X c = true → Y c = true) {s t : List Nat} (h : Erase X s t) : Erase Y s t := by
  induction h with
  | nil => exact .nil
  | keep c _ ih => exact .keep c ih
  | rep x wd hx _ ih => exact .rep x wd (hxy x hx) ih

theorem of_edit {s t : List Nat} (h : Edit (X · = true) (fun _ => False) s t) : Erase X s t := by
  induction h with
  | refl s => exact refl s
  | delete hc => exact del _ hc .nil
  | insert hc => exact hc.elim
  | append _ _ ih ih' => exact ih.append ih'
  | trans _ _ ih ih' => exact ih.trans ih'

theorem eq_of_free : ∀ (r t : List Nat), (∀ c ∈ r, X c = false) → Erase X r t → t = r
  | [], _, _, .nil => rfl
  | c :: r, _, hr, h => by
    cases h with
    | keep _ h' => rw [eq_of_free r _ (fun d hd => hr d (List.mem_cons_of_mem _ hd)) h']
    | rep _ wd hx => rw [hr c List.mem_cons_self] at hx; cases hx

/-- **an `X`-free run stays a contiguous run** -/
theorem keeps_infix : ∀ (a r b t : List Nat), (∀ c ∈ r, X c = false) → Erase X (a ++ r ++ b) t → ∃ a' b', t = a' ++ r ++ b' := by
  intro a r b t hr h
  obtain ⟨u, b', rfl, h, _⟩ := split (a ++ r) b t h
  obtain ⟨a', r', rfl, _, hr'⟩ := split a r u h
  exact ⟨a', b', by rw [eq_of_free r r' hr hr']⟩

theorem keeps_infix₂ (a r b t u : List Nat) (hr : ∀ c ∈ r, X c = false) (h1 : Erase X (a ++ r ++ b) t) (h2 : Erase X t u) :
    ∃ a' b', u = a' ++ r ++ b' :=
  keeps_infix a r b u hr (h1.trans h2)

theorem flatMap_rep (g : Nat → List Nat) (hg : ∀ c, g c ≠ [c] → X c = true) : ∀ s : List Nat, Erase X s (s.flatMap g)
  | [] => .nil
  | c :: r => by
    rw [List.flatMap_cons]
    by_cases h : g c = [c]
    · rw [h]; exact .keep c (flatMap_rep g hg r)
    · exact .rep c (g c) (hg c h) (flatMap_rep g hg r)

theorem map_sub (f : Nat → Nat) (hf : ∀ c, f c ≠ c → X c = true) (s : List Nat) : Erase X s (s.map f) :=
  List.map_eq_flatMap ▸ flatMap_rep _ (fun c h => hf c fun e => h (congrArg ([·]) e)) s

end Erase
end MC
