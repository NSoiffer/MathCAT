import MC.Props.SpeechTree
/-!
# C05 — speech is clean text (the string half of the engine, TTS=None)

Same model as C04: no marker character survives, and every character of the speech comes from a literal of the rules or
is a space or pause punctuation.
-/
namespace MC.Props.C05
open MC.Speech

/-- the speech of every well-formed tree but a bare `pause: auto` holds no marker and nothing foreign -/
theorem speak_clean_of_notAuto (pf : Nat) (t : Sp) (hw : WF t) (ha : t.isAuto = false) :
    ∀ c ∈ speak pf t, c ≠ FE ∧ c ≠ FD ∧ c ≠ FA ∧ ((∃ s ∈ lits t, c ∈ s) ∨ c = 32 ∨ c = 44 ∨ c = 59) := by
  intro c hc
  obtain ⟨h1, hfe, hfd⟩ := finalize_mem _ c hc
  refine ⟨hfe, hfd, ?_⟩
  rcases h1 with h1 | rfl
  · have hfa : c ≠ FA := fun e => eval_noFA pf t hw ha (e ▸ h1)
    -- one of the engine's own characters, but neither `FA` nor `FE`
    exact ⟨hfa, (eval_mem pf t h1).imp_right fun h => (h.of_ne_fa hfa).imp_right (Or.resolve_left · hfe)⟩
  · exact ⟨by decide, .inr (.inr (.inr rfl))⟩

/-- **C05 (markers, markup)**: for every nesting of rule applications whose literal pieces do not themselves contain the
placeholder character, and whose top level is a rule application: the final string contains none of the three marker
characters, and every character of it is a character of some literal piece, a space or pause punctuation. -/
theorem speak_clean (pf : Nat) (ks : List Sp) (hw : WF (.arr ks)) :
    ∀ c ∈ speak pf (.arr ks), c ≠ FE ∧ c ≠ FD ∧ c ≠ FA ∧ ((∃ s ∈ lits (.arr ks), c ∈ s) ∨ c = 32 ∨ c = 44 ∨ c = 59) :=
  speak_clean_of_notAuto pf (.arr ks) hw rfl

/-- no markup for TTS=None: `<` appears only if a literal piece of a rule contains it -/
theorem speak_no_markup (pf : Nat) (ks : List Sp) (hw : WF (.arr ks)) (hl : ∀ s ∈ lits (.arr ks), 60 ∉ s) :
    60 ∉ speak pf (.arr ks) := by
  intro h
  rcases (speak_clean pf ks hw 60 h).2.2.2 with ⟨s, hs, hc⟩ | e | e | e
  · exact hl s hs hc
  all_goals exact absurd e (by decide)

/-- the clean-up alone, for EVERY string: the concatenation and optional markers never survive it -/
theorem cleanup_removes_markers (s : Str) : FE ∉ finalize s ∧ FD ∉ finalize s :=
  ⟨fun h => (finalize_mem s FE h).2.1 rfl, fun h => (finalize_mem s FD h).2.2 rfl⟩

/-- every joined array is free of the automatic-pause placeholder (so it can never reach the caller) -/
theorem join_resolves_auto (pf : Nat) (xs : List Str) (h : ∀ x ∈ xs, AutoOK x) : FA ∉ joinArray pf xs :=
  joinArray_noFA pf xs h

/-- non-emptiness: content of the literal pieces is content of the speech (partial: under `FC`; `hw` is not needed) -/
theorem speak_nonempty_partial (q : Nat → Bool) (hq : Content q) (pf : Nat) (t : Sp) (hw : WF t) (hf : FC q pf t)
    (hc : (lits t).flatten.filter q ≠ []) : speak pf t ≠ [] := by
  intro h
  have h2 := speak_filter q hq pf t hf
  rw [h] at h2
  exact hc h2.symm

def str (x : String) : Str := x.toList.map Char.toNat
example : WF (.arr [.lit (str "x"), .auto, .nodes [.arr [.lit (str "squared")], .arr [.lit (str "the end")]]]) := by
  -- `WF` is a `Prop` by recursion: unfolded on this tree it is a conjunction of closed facts about lists
  simp only [WF, WFL, Sp.isAuto]; decide
example : speak 100 (.arr [.lit (str "x"), .auto, .nodes [.arr [.lit (str "squared")], .arr [.lit (str "the end")]]])
    = str "xsquared the end" := by decide +kernel

end MC.Props.C05
