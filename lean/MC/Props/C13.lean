import MC.Spec.Tts
/-!
# C13 — speech-engine markup is well formed and never changes the words
-/
namespace MC.Props.C13
open MC.Tts MC.Spec.Tts

/-- **tags pair up**: for both engines and every command, the regenerated start template is one valid tag of the engine's
vocabulary with `name='v'`/`name="v"` attributes and the end template closes exactly that element. -/
theorem tags_pair : MC.Gen.Tts.templates.all pairOk = true := by decide +kernel

/-- the strings `merge_pauses_*` write back are single valid self-closing tags -/
theorem merge_templates_ok : MC.Gen.Tts.mergeTemplates.all mergeOk = true := by decide +kernel

theorem bal_argToks (st : List Str) (a : Option Str) (r : List Tok) : bal st (argToks a ++ r) = bal st r := by
  cases a <;> simp [argToks, bal]

theorem bal_toks (eng : Nat) (t : Sp) : ∀ (st : List Str) (r : List Tok), bal st (toks eng t ++ r) = bal st r := by
  induction t with
  | nil => intro st r; simp [toks]
  | words w => intro st r; simp [toks, bal]
  | cat a b iha ihb => intro st r; simp only [toks, List.append_assoc]; rw [iha, ihb]
  | cmd c arg body ih =>
    intro st r
    simp only [toks]
    split
    · rename_i n _
      simp only [List.cons_append, List.append_assoc, bal]
      rw [bal_argToks, ih]
      simp [bal]
    · rename_i n _
      simp only [List.cons_append, List.append_assoc, bal]
      rw [bal_argToks, ih]
    · simp only [List.append_assoc]
      rw [bal_argToks, ih]

/-- **C13, nesting**: the token stream of any speech term is properly nested and closed, for every engine -/
theorem render_well_nested (eng : Nat) (t : Sp) : bal [] (toks eng t) = true := by
  have := bal_toks eng t [] []
  simpa [bal] using this

/-- merging pauses (dropping or adding self-closing tags anywhere) keeps a stream well nested -/
theorem bal_empty_irrelevant (st : List Str) (xs ys : List Tok) (n : Str) :
    bal st (xs ++ .empty n :: ys) = bal st (xs ++ ys) := by
  induction xs generalizing st with
  | nil => simp [bal]
  | cons x xs ih =>
    cases x with
    | op m => simp [bal, ih]
    | cl m => cases st <;> simp [bal, ih]
    | empty m => simp [bal, ih]
    | text w => simp [bal, ih]

theorem textOf_append (a b : List Tok) : textOf (a ++ b) = textOf a ++ textOf b := by
  induction a with
  | nil => rfl
  | cons x xs ih => cases x <;> simp [textOf, ih]

def plainWords : Sp → List Str
  | .nil => []
  | .words w => [w]
  | .cat a b => plainWords a ++ plainWords b
  | .cmd _ arg body => (match arg with | some w => [w] | none => []) ++ plainWords body

theorem textOf_argToks (a : Option Str) : textOf (argToks a) = (match a with | some w => [w] | none => []) := by
  cases a <;> rfl

/-- **C13, words**: removing the tags leaves exactly the same words whatever engine (none, SSML, SAPI5) is selected -/
theorem strip_tags_eq_none (eng : Nat) (t : Sp) : textOf (toks eng t) = plainWords t := by
  induction t with
  | nil => rfl
  | words w => rfl
  | cat a b iha ihb => simp [toks, plainWords, textOf_append, iha, ihb]
  | cmd c arg body ih =>
    simp only [toks, plainWords]
    split
    · simp [textOf, textOf_append, textOf_argToks, ih]   -- `<n …> … </n>`: neither tag is text
    · simp [textOf, textOf_append, textOf_argToks, ih]   -- a self-closing tag in front
    · simp [textOf_append, textOf_argToks, ih]           -- the engine writes no tag

theorem words_engine_independent (e₁ e₂ : Nat) (t : Sp) : textOf (toks e₁ t) = textOf (toks e₂ t) := by
  rw [strip_tags_eq_none, strip_tags_eq_none]

/-- non-vacuity: a pitch change around a spelled letter, with a pause, under SAPI5 and SSML -/
example : toks 2 (.cmd 3 none (.cat (.cmd 7 (some [65]) .nil) (.cmd 0 none .nil))) =
    [.op (nm "pitch"), .op (nm "spell"), .text [65], .cl (nm "spell"), .empty (nm "silence"), .cl (nm "pitch")] := by
  decide +kernel
example : toks 1 (.cmd 3 none (.cmd 8 none (.words [120]))) =
    [.op (nm "prosody"), .empty (nm "mark"), .text [120], .cl (nm "prosody")] := by decide +kernel

end MC.Props.C13
