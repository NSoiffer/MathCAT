import MC.Props.C10
/-!
# C14 — broken rule files give errors and recovery is complete (the cache layer)

Faults and repairs are changes of the abstract file system between calls. The YAML parser's and the OS's behaviour on a
damaged file is the predicate `good`; what the model adds is the bookkeeping: when an error is reported, what the caches
look like afterwards, and when a repaired file is read again.
-/
namespace MC.Props.C14
open MC.Loader MC.Props.C10

/-- **a fault is an error, not a stale answer**: if a cache has to load and a file it needs is broken, the call reports
the error; afterwards the cache is in the state of a fresh session (nothing loaded, nothing recorded) -/
theorem fault_is_error (k : Kind) (c : Cell) (pref : Path) (ignore : Bool) (fs : FS)
    (hn : needsLoad k c pref ignore fs = true) (hb : (fs.incl pref).all fs.good = false) :
    (refresh k c pref ignore fs).2 = false ∧ (refresh k c pref ignore fs).1 = Cell.empty := by
  rw [refresh_failed hn hb]
  exact ⟨rfl, rfl⟩

/-- whenever a refresh reports an error, the cache it leaves is the empty one -/
theorem error_leaves_empty (k : Kind) (c : Cell) (pref : Path) (ignore : Bool) (fs : FS)
    (he : (refresh k c pref ignore fs).2 = false) : (refresh k c pref ignore fs).1 = Cell.empty := by
  cases hn : needsLoad k c pref ignore fs with
  | false => rw [refresh_kept hn] at he; cases he
  | true =>
    cases hg : (fs.incl pref).all fs.good with
    | true => rw [refresh_loaded hn hg] at he; cases he
    | false => rw [refresh_failed hn hg]

theorem empty_needs_load (k : Kind) (pref : Path) (ignore : Bool) (fs : FS) : needsLoad k Cell.empty pref ignore fs = true :=
  needs_of_not_upToDate k rfl

/-- **recovery after an error is complete, in every `CheckRuleFiles` mode and after re-pointing**: whatever the cache held, if a
refresh fails, the next refresh against repaired files (any preferred file, file checking on or off, whatever the time stamps)
succeeds and builds exactly the table a fresh session builds. True of the code with the repair 'fix: a failed load of rule files
is retried': the record of the files must not survive the failed load (DESIGN §8.2) -/
theorem recovery_after_error (k : Kind) (c : Cell) (pref pref' : Path) (ignore ignore' : Bool) (fs fs' : FS)
    (he : (refresh k c pref ignore fs).2 = false) (hs : Sane fs') :
    (refresh k (refresh k c pref ignore fs).1 pref' ignore' fs').2 = true ∧
    (refresh k (refresh k c pref ignore fs).1 pref' ignore' fs').1.data = contentOf fs' (fs'.incl pref') := by
  rw [error_leaves_empty k c pref ignore fs he]
  exact (refresh_fresh k _ pref' ignore' fs' hs (.inr (empty_needs_load ..))).1

/-- a failing rule set makes the whole call fail -/
theorem call_reports_rules_fault (s : Caches) (p : Pref) (ignore full : Bool) (fs : FS)
    (hn : needsLoad .rules s.rules p.rules ignore fs = true) (hb : (fs.incl p.rules).all fs.good = false) :
    (call s p ignore full fs).2 = false := by
  simp [call, refresh_failed hn hb]

/-- **with file checking enabled a newer file is always noticed**, by every kind of cache -/
theorem newer_is_noticed (k : Kind) (c : Cell) (pref : Path) (fs : FS) (q tq : Nat) (hq : (q, tq) ∈ c.files)
    (hnew : fs.mtime q > tq) : needsLoad k c pref false fs = true := by
  refine needs_of_not_upToDate k ?_
  have hall : (c.files.all fun (q, tq) => decide (tq ≥ fs.mtime q)) = false :=
    List.all_eq_false.2 ⟨(q, tq), hq, by simpa using hnew⟩
  unfold upToDate
  split
  · rfl
  · simp [hall]

/-- **re-pointing always reloads**: a preferred file different from the recorded head file is loaded whatever
`CheckRuleFiles` says -/
theorem repoint_is_noticed (k : Kind) (c : Cell) (pref : Path) (ignore : Bool) (fs : FS)
    (h : ∀ t rest, c.files ≠ (pref, t) :: rest) : needsLoad k c pref ignore fs = true := by
  cases hn : needsLoad k c pref ignore fs with
  | true => rfl
  | false => obtain ⟨t, rest, hf⟩ := kept_head hn; exact absurd hf (h t rest)

/-- rule tables and the full Unicode table retry after an error even without file checking (their emptiness is looked at) -/
theorem retry_after_error (c : Cell) (pref : Path) (ignore : Bool) (fs : FS) (hd : c.data = []) :
    needsLoad .rules c pref ignore fs = true ∧ needsLoad .uniFull c pref ignore fs = true := by
  simp [needsLoad, hd]

/-- a record exactly when there is a table: `refresh` does not produce "recorded but empty", the state in which the short Unicode
table and the definitions would not retry (`paired_refresh`) -/
def Paired (c : Cell) : Prop := c.files = [] ↔ c.data = []

theorem paired_refresh (k : Kind) (c : Cell) (pref : Path) (ignore : Bool) (fs : FS) (hs : Sane fs) (h : Paired c) :
    Paired (refresh k c pref ignore fs).1 := by
  cases hn : needsLoad k c pref ignore fs with
  | false => rw [refresh_kept hn]; exact h
  | true =>
    cases hg : (fs.incl pref).all fs.good with
    | true =>
      obtain ⟨rest, hr⟩ := hs.head pref
      simp [refresh_loaded hn hg, Paired, timesOf, contentOf, hr]
    | false => rw [refresh_failed hn hg]; exact Iff.rfl

/-- **recovery is complete** (one cache): whatever the cache holds, once the files are repaired (`Sane`) and file checking is on, the
call succeeds with the table a fresh session builds, provided the cache is coherent with the repaired files or the repair is visible:
some recorded file is strictly newer than when it was read, or the preferred file is not the recorded head file (or nothing is recorded) -/
theorem recovery_complete (k : Kind) (c : Cell) (pref : Path) (fs : FS) (hs : Sane fs)
    (hvis : Coh c fs ∧ (c.data = [] → c = Cell.empty) ∨ (∃ q tq, (q, tq) ∈ c.files ∧ fs.mtime q > tq) ∨ (∀ t rest, c.files ≠ (pref, t) :: rest)) :
    (refresh k c pref false fs).2 = true ∧ (refresh k c pref false fs).1.data = contentOf fs (fs.incl pref) := by
  refine (refresh_fresh k c pref false fs hs ?_).1
  rcases hvis with ⟨hc, _⟩ | ⟨q, tq, hq, hnew⟩ | hrep
  · exact .inl hc
  · exact .inr (newer_is_noticed k c pref fs q tq hq hnew)
  · exact .inr (repoint_is_noticed k c pref false fs hrep)

/-- whole call: if every cache is coherent with the repaired files or visibly stale, the call succeeds and computes from
the fresh tables -/
theorem recovery_complete_call (s : Caches) (p : Pref) (full : Bool) (fs : FS) (hs : Sane fs)
    (vis : ∀ (c : Cell) (pref : Path), (c, pref) ∈ [(s.rules, p.rules), (s.uniShort, p.uniShort), (s.defs, p.defs), (s.uniFull, p.uniFull)] →
      Coh c fs ∧ (c.data = [] → c = Cell.empty) ∨ (∃ q tq, (q, tq) ∈ c.files ∧ fs.mtime q > tq) ∨ (∀ t rest, c.files ≠ (pref, t) :: rest)) :
    (call s p false full fs).2 = true ∧ view (call s p false full fs).1 full = freshView p full fs :=
  call_fresh (recovery_complete .rules s.rules p.rules fs hs (vis _ _ (by simp)))
    (recovery_complete .uniShort s.uniShort p.uniShort fs hs (vis _ _ (by simp)))
    (recovery_complete .defs s.defs p.defs fs hs (vis _ _ (by simp)))
    (recovery_complete .uniFull s.uniFull p.uniFull fs hs (vis _ _ (by simp)))

/-- why "strictly newer" is needed for a change that did NOT produce an error: a file rewritten with its old time stamp
is not seen (the table built from version 1 is kept although the file now holds version 2) -/
theorem same_time_not_noticed :
    ∃ (c : Cell) (fs : FS), (fs.incl 3).all fs.good = true ∧ c.data = [(3, 1)] ∧ fs.content 3 = 2 ∧ (refresh .uniShort c 3 false fs).1.data = [(3, 1)] :=
  ⟨⟨[(3, 50)], [(3, 1)]⟩, { content := fun _ => 2, mtime := fun _ => 50, good := fun _ => true, incl := fun p => [p] }, by decide, rfl, rfl, by decide⟩

end MC.Props.C14
