import MC.Props.CleanShape
/-!
# C02 for the clean-up skeleton: fixed-arity elements keep their arity

`arIn` is what `assure_mathml` checks before the clean-up runs.  The reason for `clean_wf` is `clean_keeps`: under a parent with a
fixed number of children nothing is ever removed — a placeholder is put in its place — so the children loop keeps the count
(`cleanL_length_fixed`).
-/
namespace MC.Props.C02Clean
open MC.Xml MC.Clean

abbrev Str := List Nat

def ar2 : List Str := [s "mfrac", s "mroot", s "msub", s "msup", s "munder", s "mover"]
def ar3 : List Str := [s "msubsup", s "munderover"]

/-- the number of children the element must have, if it is fixed -/
def arityOf (n : Str) : Option Nat := if ar2.contains n then some 2 else if ar3.contains n then some 3 else none

def arityOk (n : Str) (k : Nat) : Bool :=
  (match arityOf n with | some a => k == a | none => true) && (if oneChildEls.contains n then k == 1 else true)

mutual
/-- output side: fixed arities and one-child elements -/
def wf : Node → Bool
  | .text _ => true
  | .elem n _ kids => arityOk n kids.length && wfL kids
def wfL : List Node → Bool
  | [] => true
  | k :: ks => wf k && wfL ks
end

mutual
/-- input side (`assure_mathml`): elements with a fixed number of children have it -/
def arIn : Node → Bool
  | .text _ => true
  | .elem n _ kids => (match arityOf n with | some a => kids.length == a | none => true) && arInL kids
def arInL : List Node → Bool
  | [] => true
  | k :: ks => arIn k && arInL ks
end

theorem arity_spec {n : Str} {k : Nat} (h : arityOf n = some k) : fixedArity.contains n = true ∧ (k = 2 ∨ k = 3) := by
  have all : ∀ m ∈ ar2 ++ ar3, fixedArity.contains m = true := by decide +kernel
  unfold arityOf at h
  split at h
  · exact ⟨all n (List.mem_append_left _ (by simpa using ‹ar2.contains n = true›)), .inl (Option.some.inj h).symm⟩
  · split at h
    · exact ⟨all n (List.mem_append_right _ (by simpa using ‹ar3.contains n = true›)), .inr (Option.some.inj h).symm⟩
    · cases h

/-- the arities of the script elements, and that two children are right for the two an `msubsup` can turn into -/
theorem arity_scripts : (∀ m ∈ [s "msub", s "msup"], arityOf m = some 2 ∧ arityOk m 2 = true) ∧ arityOf (s "msubsup") = some 3 := by
  decide +kernel

theorem leafShape_keeps {n : Str} {attrs : List (Str × Str)} {t : Str} {o : Option Node} (h : LeafShape true n attrs t o) : o.isSome = true := by
  cases h with
  | gone h _ => cases h
  | _ => rfl

theorem built_keeps {n : Str} {a : List (Str × Str)} {cs : List Node} {o : Option Node} (h : Built true n a cs o) : o.isSome = true := by
  cases h with
  | gone h _ => cases h
  | _ => rfl

theorem clean_keeps (pn : Str) (t : Node) : (clean true pn t).isSome = true := by
  cases t with
  | text x => rw [clean]; rfl
  | elem n attrs kids =>
    exact clean_elem (motive := fun o => o.isSome = true) true pn n attrs kids
      (fun _ _ ho => leafShape_keeps ho) (fun _ _ => ⟨nofun, rfl⟩) (fun _ _ _ _ _ _ hb => built_keeps hb)

theorem cleanL_length_fixed (pn : Str) (ks : List Node) : (cleanL true pn ks).length = ks.length := by
  induction ks with
  | nil => simp [cleanL]
  | cons k ks ih =>
    rw [cleanL]
    have := clean_keeps pn k
    cases h : clean true pn k with
    | none => rw [h] at this; cases this
    | some r => simp [ih]

theorem cleanL_length_arity {n : Str} {attrs : List (Str × Str)} {kids : List Node} {k : Nat} (hin : arIn (.elem n attrs kids) = true)
    (ha : arityOf n = some k) (q : Str) : (cleanL (fixedArity.contains n) q kids).length = k := by
  rw [arIn, ha, Bool.and_eq_true] at hin
  rw [(arity_spec ha).1, cleanL_length_fixed]
  simpa using hin.1

theorem ok_of (n : Str) (h1 : arityOf n = none) (h2 : oneChildEls.contains n = false) (k : Nat) : arityOk n k = true := by
  unfold arityOk; rw [h1, h2]; rfl

theorem leaf_arityOk (n : Str) (hl : isLeafName n = true) (k : Nat) : arityOk n k = true := by
  have names : ∀ m : Str, isLeafName m = true → arityOf m = none ∧ oneChildEls.contains m = false := by
    -- `isLeafName m` is membership in a list of names: unfolded, the statement is a bounded one
    unfold isLeafName
    simp only [List.contains_eq_mem, decide_eq_true_eq]
    decide +kernel
  exact ok_of n (names n hl).1 (names n hl).2 k

theorem ok_mrow (k : Nat) : arityOk (s "mrow") k = true := ok_of _ (by decide +kernel) (by decide +kernel) k
theorem ok_mi (k : Nat) : arityOk (s "mi") k = true := leaf_arityOk _ (tokNames_leaf mem_mi) k

theorem wf_leaf (n : Str) (attrs : List (Str × Str)) (t : Str) (h : isLeafName n = true) : wf (leaf n attrs t) = true := by
  simp [leaf, wf, wfL, leaf_arityOk n h]

theorem wf_makeEmpty (attrs : List (Str × Str)) : wf (makeEmpty attrs) = true := wf_leaf _ _ _ (tokNames_leaf mem_mtext)
theorem wf_createEmpty : wf createEmpty = true := wf_leaf _ _ _ (tokNames_leaf mem_mtext)

theorem wf_mrow (attrs : List (Str × Str)) (kids : List Node) (h : wfL kids = true) : wf (.elem (s "mrow") attrs kids) = true := by
  rw [wf, ok_mrow, h]; rfl

theorem wf_lift (attrs : List (Str × Str)) (k : Node) : wf (lift attrs k) = wf k := by
  cases k with
  | text t => rfl
  | elem n a kids => simp only [lift]; rw [wf, wf]

theorem leafShape_wf {prc : Bool} {n : Str} {attrs : List (Str × Str)} {t : Str} {r : Node} (h : LeafShape prc n attrs t (some r))
    (hl : isLeafName n = true) : wf r = true := by
  cases h with
  | placeholder _ => exact wf_makeEmpty attrs
  | signed _ _ _ =>
    exact wf_mrow _ _ (by simp only [wfL, wf_leaf _ _ _ (tokNames_leaf mem_mo), wf_leaf _ _ _ (tokNames_leaf mem_mn)]; rfl)
  | token _ hn' _ => exact wf_leaf _ _ _ (tokNames_leaf hn')
  | space _ => exact wf_leaf _ _ _ (tokNames_leaf mem_mtext)
  | other _ _ =>
    rw [wf, leaf_arityOk n hl]
    cases t <;> rfl

theorem wfL_sublist {a b : List Node} (h : a.Sublist b) (hb : wfL b = true) : wfL a = true := by
  induction h with
  | slnil => rfl
  | cons x _ ih => rw [wfL, Bool.and_eq_true] at hb; exact ih hb.2
  | cons_cons x _ ih => rw [wfL, Bool.and_eq_true] at hb ⊢; exact ⟨hb.1, ih hb.2⟩

theorem one_no_arity (n : Str) (h : oneChildEls.contains n = true) : arityOf n = none := by
  have names : ∀ m ∈ oneChildEls, arityOf m = none := by decide +kernel
  exact names n (by simpa using h)

theorem empty_arityOk (n : Str) (h : emptyEls.contains n = true) (k : Nat) : arityOk n k = true := by
  have names : ∀ m ∈ emptyEls, arityOf m = none ∧ oneChildEls.contains m = false := by decide +kernel
  exact ok_of n (names n (by simpa using h)).1 (names n (by simpa using h)).2 k

theorem assureOne_length (cs : List Node) : (assureOne cs).length = 1 := by
  unfold assureOne; split <;> rfl

theorem assureOne_wf (cs : List Node) (h : wfL cs = true) : wfL (assureOne cs) = true := by
  unfold assureOne
  split
  · simp [wfL, wf_createEmpty]
  · exact h
  · simp only [wfL, Bool.and_true]; exact wf_mrow _ _ h

theorem built_wf {prc : Bool} {n : Str} {a : List (Str × Str)} {cs : List Node} {r : Node} (hb : Built prc n a cs (some r))
    (hc : wfL cs = true) (hk : ∀ k, arityOf n = some k → cs.length = k) : wf r = true := by
  cases hb with
  | placeholder _ => exact wf_makeEmpty a
  | noneEl _ =>
    rw [wf, leaf_arityOk _ (by decide +kernel)]
    rfl
  | missing _ => exact wf_createEmpty
  | bare _ he =>
    rw [wf, empty_arityOk n he]
    rfl
  | first he _ =>
    subst he
    rw [wfL, Bool.and_eq_true] at hc
    exact hc.1
  | lifted he =>
    subst he
    rw [wf_lift]
    rw [wfL, Bool.and_eq_true] at hc
    exact hc.1
  | row ht => exact wf_mrow a _ (wfL_sublist ht.sublist hc)
  | wrapped ht h1 =>
    rw [wf, assureOne_wf _ (wfL_sublist ht.sublist hc), Bool.and_true]
    unfold arityOk
    rw [one_no_arity n h1, h1, assureOne_length]
    rfl
  | @script n' cs' hn hn' ht hlen =>
    -- of the three children that `assure_mathml` saw, two are left
    have h2 : cs'.length = 2 := by
      have := hk 3 (by rw [hn]; exact arity_scripts.2)
      omega
    rw [wf, h2, wfL_sublist ht.sublist hc, Bool.and_true]
    exact (arity_scripts.1 n' hn').2
  | same h1 =>
    rw [wf, hc, Bool.and_true]
    unfold arityOk
    rw [h1]
    cases ha : arityOf n with
    | none => rfl
    | some k => simp [hk k ha]

theorem wf_kept : Kept (fun t o => arIn t = true → ∀ r, o = some r → wf r = true) (fun ks cs => arInL ks = true → wfL cs = true) where
  text _ _ _ e := by cases e; rfl
  leaf hl ho _ r e := leafShape_wf (e ▸ ho) hl
  hid _ _ := ⟨fun _ _ e => (nomatch e), fun _ _ e => by cases e; exact wf_makeEmpty _⟩
  built {_ n attrs kids q a o} _ _ _ hc hb hin r e := by
    refine built_wf (e ▸ hb) (hc (by rw [arIn, Bool.and_eq_true] at hin; exact hin.2)) fun k ha => ?_
    have hlen := cleanL_length_arity hin ha q
    have hne : ¬ kids.isEmpty = true := by
      intro he
      simp only [List.isEmpty_iff] at he
      subst he
      rcases (arity_spec ha).2 with h2 | h2 <;> simp [cleanL, h2] at hlen
    rwa [orMissing_nonempty _ hne]
  missing _ := by simp [wfL, wf_createEmpty]
  nil _ := rfl
  drop _ h2 h := by
    rw [arInL, Bool.and_eq_true] at h
    exact h2 h.2
  keep h1 h2 h := by
    rw [arInL, Bool.and_eq_true] at h
    rw [wfL, h1 h.1 _ rfl, h2 h.2]
    rfl

/-- **C02 for the clean-up skeleton**: whatever the clean-up keeps is well formed as far as child counts go — an element with a
fixed number of children still has that number (a deleted child was replaced by a placeholder), and every one-child element
has exactly one child (several were wrapped in an `mrow`, none was replaced by a placeholder) -/
theorem clean_wf (prc : Bool) (pn : Str) : (t : Node) → arIn t = true → (r : Node) → clean prc pn t = some r → wf r = true :=
  wf_kept.holds prc pn
theorem cleanL_wf (prc : Bool) (pn : Str) : (ts : List Node) → arInL ts = true → wfL (cleanL prc pn ts) = true :=
  wf_kept.holdsL prc pn

theorem cleanMath_wf (t r : Node) (hin : arIn (trim t) = true) (h : cleanMath t = some r) : wf r = true :=
  clean_wf false (s "math") (trim t) hin r h

example : (cleanMath (.elem (s "math") [] [.elem (s "msubsup") [] [.elem (s "mphantom") [] [.elem (s "mi") [] [.text (s "y")]], .elem (s "mrow") [] [],
    .elem (s "mn") [] [.text (s "2")]], .elem (s "mi") [] [.text (s "x")]])).map wf = some true := by decide +kernel
example : arIn (trim (.elem (s "math") [] [.elem (s "msubsup") [] [.elem (s "mphantom") [] [.elem (s "mi") [] [.text (s "y")]], .elem (s "mrow") [] [],
    .elem (s "mn") [] [.text (s "2")]], .elem (s "mi") [] [.text (s "x")]])) = true := by decide +kernel

/-! ### the index expressions of the script branch (`children[1]`, `children[2]`, canonicalize.rs:1151-1154, `clean_msubsup`) are in range -/

/-- after the children loop an `msub` / `msup` that passed `assure_mathml` still has two children, an `msubsup` three: the
`children[0]`, `children[1]` (and `children[2]`) of the empty-script test and of `clean_msubsup` exist -/
theorem script_children_present (n : Str) (attrs : List (Str × Str)) (kids : List Node) (hin : arIn (.elem n attrs kids) = true) :
    ((n = s "msub" ∨ n = s "msup") → (cleanL (fixedArity.contains n) n kids).length = 2) ∧
    (n = s "msubsup" → (cleanL (fixedArity.contains n) n kids).length = 3) := by
  exact ⟨fun hn => cleanL_length_arity hin (arity_scripts.1 n (by simpa using hn)).1 n,
    fun hn => cleanL_length_arity hin (hn ▸ arity_scripts.2) n⟩

/-- the `chars.next().unwrap()` of the `mn` arm (canonicalize.rs:807) is reached with a non-empty text only: an empty `mn` has
been replaced or removed by the empty-leaf rule in front of the `match` -/
theorem mn_first_char_present (prc : Bool) (attrs : List (Str × Str)) (r : Node) (h : cleanLeaf prc (s "mn") attrs [] = some r) :
    r = makeEmpty attrs := by
  unfold cleanLeaf at h
  have he : (!emptyEls.contains (s "mn") && ([] : Str).isEmpty) = true := by decide +kernel
  rw [if_pos he] at h
  split at h
  · injection h with h; exact h.symm
  · cases h

end MC.Props.C02Clean
