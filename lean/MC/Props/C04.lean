import MC.Props.SpeechTree
/-!
# C04 — speech voices every operand (the string half of the engine, TTS=None)

Model: `MC.Speech` (`joinArray`, `finalize`), lifted to every tree of rule applications in `MC.Props.SpeechTree`.
The full-strength statement is FALSE of the faithful model (and of the code): `content_not_preserved`.
-/
namespace MC.Props.C04
open MC.Speech

/-- **partial (C04)**: for every nesting of rule applications, every PauseFactor and every content class `q` (digits, for
instance): if no optional word has content in front of it within its string (`FC`), the final speech string has exactly
the content of the literal pieces, in order. (`hw` is not needed: what is deleted and inserted does not depend on where
the placeholder stands.) -/
theorem speak_content_partial (q : Nat → Bool) (hq : Content q) (pf : Nat) (t : Sp) (hw : WF t) (hf : FC q pf t) :
    (speak pf t).filter q = (lits t).flatten.filter q :=
  speak_filter q hq pf t hf

/-- the instance the property talks about: the digits of the literals are the digits of the speech, in order -/
theorem speak_digits_partial (pf : Nat) (t : Sp) (hw : WF t) (hf : FC isDigit pf t) :
    (speak pf t).filter isDigit = (lits t).flatten.filter isDigit :=
  speak_content_partial isDigit content_digit pf t hw hf

/-- the clean-up at the end of `speak_rules` never touches content, for EVERY string (no hypothesis) -/
theorem cleanup_preserves_digits (s : Str) : (finalize s).filter isDigit = s.filter isDigit :=
  finalize_filter isDigit content_digit s

/-- one join conserves content when its inputs are `FrontClean` (`ha` is not needed) -/
theorem join_preserves_digits_partial (pf : Nat) (xs : List Str) (ha : ∀ x ∈ xs, AutoOK x) (hf : ∀ x ∈ xs, FrontClean isDigit x) :
    (joinArray pf xs).filter isDigit = xs.flatten.filter isDigit :=
  content_digit.filter_eq (joinArray_edit content_digit pf xs hf)

def str (x : String) : Str := x.toList.map Char.toNat

/-- **the full-strength statement is false**: `is_repetitive` returns only the text after the optional word, so the text in
front of it is deleted with it. Witness (shape of ClearSpeak's "x raised to the 2.5 ⟨the⟩ fraction ..."): -/
theorem dedupe_loses_prefix :
    (joinArray 100 [str "raised to the", str "2.5 \uF8FDthe\uF8FD fraction", str "power"]).filter isDigit = [] ∧
    ([str "raised to the", str "2.5 \uF8FDthe\uF8FD fraction", str "power"].flatten).filter isDigit = str "25" := by
  decide +kernel

theorem content_not_preserved :
    ∃ xs : List Str, (∀ x ∈ xs, AutoOK x) ∧ (joinArray 100 xs).filter isDigit ≠ xs.flatten.filter isDigit := by
  have hok : [str "raised to the", str "2.5 \uF8FDthe\uF8FD fraction", str "power"].all autoOkB = true := by decide +kernel
  refine ⟨_, fun x hx => autoOkB_sound x (List.all_eq_true.mp hok x hx), ?_⟩
  rw [dedupe_loses_prefix.1, dedupe_loses_prefix.2]
  decide

/-- non-vacuity of the partial theorem: a tree with an optional word that IS dropped, digits kept -/
example : (speak 100 (.arr [.lit (str "3.5"), .lit (str "the"), .arr [.lit (str "\uF8FDthe\uF8FD fraction"), .lit (str "1.5"), .auto, .lit (str "over 7")], .lit (str "end")])).filter isDigit
    = str "35157" := by decide +kernel

end MC.Props.C04
