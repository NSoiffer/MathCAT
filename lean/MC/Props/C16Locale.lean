import MC.Props.C16Fold
import MC.Props.C12Sep
/-!
C16, "which characters count as group separators and decimal mark follows the locale preferences", the two halves put together:
`MC.Props.C12Sep` says which separators are in force after any history (those `deriveSeparators` gives for the language in force),
`MC.Props.C16Fold` that for any *good* setting a split number folds into the unsplit one; here: every setting `deriveSeparators`
can produce is good.
-/
namespace MC.Props.C16Locale
open MC.Prefs MC.Numbers MC.Props.C16 MC.Props.C12 MC.Props.C12Sep

def cpsOf (s : String) : List Nat := s.toList.map Char.toNat

/-- the scanner's separator setting for a pair (`DecimalSeparators`, `BlockSeparators`) -/
def sepsOf (p : String × String) : Seps := ⟨cpsOf p.2, cpsOf p.1⟩

/-- `deriveSeparators` is decided by two booleans: decimal point or comma, and whether the country writes ' between groups -/
theorem derive_pick (lang dec : String) : ∃ up ch : Bool,
    deriveSeparators lang dec = (if up then "." else ",", (if up then ", \u00A0\u202F" else ". \u00A0\u202F") ++ (if ch then "'" else "")) :=
  -- `up` is the definition's `usePeriod`, `ch` its `country = "ch" || country = "li"`: read off its last line by unification
  ⟨_, _, rfl⟩

/-- **every separator setting a language tag can derive is a good one** (digit-free, decimal mark not among the group separators) -/
theorem derived_good (lang dec : String) : GoodSeps (sepsOf (deriveSeparators lang dec)) := by
  obtain ⟨up, ch, h⟩ := derive_pick lang dec
  rw [h]
  cases up <;> cases ch <;> exact ⟨by decide +kernel, by decide +kernel, by decide +kernel⟩

/-- **after every history, split = unsplit for the numbers of the language in force**: the separators the preferences hold are a good
setting `S`, and a number of `S`'s grammar split at every separator (`mo` for `k = 1`, `mtext` for `k = 2`), in front of a token that is
no `mn` and holds no separator, is scanned by `merge_number_blocks` into the row it gives for the single token -/
theorem split_folds_in_force (E : Env) (ops : List (String × String)) (hops : indirect ops) (d : String) (hv : validDec d = true)
    (hd : prefToString (runOps E initState ops) "DecimalSeparator" = some d) :
    ∃ ds bs, prefToString (runOps E initState ops) "DecimalSeparators" = some ds ∧
      prefToString (runOps E initState ops) "BlockSeparators" = some bs ∧
      (ds, bs) = deriveSeparators (curLanguage (runOps E initState ops)) d ∧
      GoodSeps (sepsOf (ds, bs)) ∧
      ∀ (k : Nat) (_ : k = 1 ∨ k = 2) (lead : Str) (groups : List (Nat × Str)) (_ : GoodInt (sepsOf (ds, bs)) lead groups)
        (frac : Option (Nat × Str))
        (_ : ∀ dd fd, frac = some (dd, fd) → (sepsOf (ds, bs)).dec.contains dd = true ∧ allDig fd = true ∧ fd ≠ [])
        (_ : groups ≠ [] ∨ frac ≠ none) (stop : Tok) (_ : stops (sepsOf (ds, bs)) stop) (rest : List Tok) (f : Nat),
        mergeLoop (sepsOf (ds, bs)) false (f + 1) (splitToks k lead groups frac ++ stop :: rest) =
          mergeLoop (sepsOf (ds, bs)) false (f + 1) (⟨0, numText lead groups frac⟩ :: stop :: rest) := by
  obtain ⟨h1, h2⟩ := separators_follow_preferences E ops hops d hd hv
  refine ⟨_, _, h1, h2, rfl, derived_good _ _, ?_⟩
  intro k hk lead groups hg frac hfr hsplit stop hstop rest f
  exact split_eq_unsplit _ (derived_good _ _) k hk lead groups hg frac hfr hsplit stop hstop rest f

/-- not vacuous: Swiss German through the host's route, the number 12'345,6 -/
example : deriveSeparators "de-CH" "Auto" = (",", ".   '") ∧
    GoodInt (sepsOf (deriveSeparators "de-CH" "Auto")) [49, 50] [(39, [51, 52, 53])] := by
  refine ⟨by decide +kernel, ⟨by decide, by decide, ?_⟩⟩
  intro g hg
  simp only [List.mem_cons, List.not_mem_nil, or_false] at hg
  subst hg
  decide +kernel

end MC.Props.C16Locale
