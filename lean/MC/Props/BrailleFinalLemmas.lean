import MC.Props.Edit
import MC.Model.BrailleFinal
/-! The blank handling at the end of `MC.BrailleFinal.finalPhase` only deletes braille blanks (used by C06 and C07). -/
namespace MC.BrailleFinal

theorem trimStartBlank_eq (s : Str) : trimStartBlank s = s.dropWhile (· = 0x2800) := by
  fun_induction trimStartBlank s with
  | case1 r ih => simpa using ih   -- a blank in front goes
  | case2 s h =>
    -- the catch-all: `h : ∀ r, s = 0x2800 :: r → False` says that `s` does not begin with a blank
    cases s with
    | nil => rfl
    | cons c r => rw [List.dropWhile_cons_of_neg (by simpa using fun e : c = 0x2800 => h r (e ▸ rfl))]

theorem collapse_edit : ∀ s : Str, Edit (· = 0x2800) (fun _ => False) s (collapse s) := by
  intro s
  fun_induction collapse s with
  | case1 r ih => exact .del rfl ih      -- two blanks: the first goes
  | case2 c r _ ih => exact .keep c ih   -- anything else is copied
  | case3 => exact .nil

theorem blanks_edit (s : Str) : Edit (· = 0x2800) (fun _ => False) s (collapse (trimBlank s)) := by
  unfold trimBlank
  rw [trimStartBlank_eq, trimStartBlank_eq]
  exact ((Edit.dropWhile _ (fun _ => of_decide_eq_true) s).trans (.dropWhile_end _ (fun _ => of_decide_eq_true) _)).trans
    (collapse_edit _)

end MC.BrailleFinal
