import MC.Props.C16
/-!
# C16 — a number split at its separators folds into the unsplit number (the scan of `merge_number_blocks`)

For EVERY separator setting (`GoodSeps`), every number of the locale grammar (1–3 digit lead group, any number of
3-digit groups, optionally a decimal mark and digits) that a generator has split into `mn` digit groups and `mo` / `mtext`
separators, in a row where the number is followed by a token that is not part of a number: the scan merges exactly these
tokens into one `mn` whose text is the unsplit number, and goes on behind it — which is what it does with the unsplit
`mn` as well (`split_eq_unsplit`).
-/
namespace MC.Props.C16
open MC.Numbers

/-- the tokens of a fully split number; separators may be `mo` (kind 1) or `mtext` (kind 2) -/
def groupToks (k : Nat) (groups : List (Nat × Str)) : List Tok := groups.flatMap fun g => [⟨k, [g.1]⟩, ⟨0, g.2⟩]

def fracToks (k : Nat) : Option (Nat × Str) → List Tok
  | none => []
  | some (d, fd) => [⟨k, [d]⟩, ⟨0, fd⟩]

def fracText : Option (Nat × Str) → Str
  | none => []
  | some (d, fd) => d :: fd

def splitToks (k : Nat) (lead : Str) (groups : List (Nat × Str)) (frac : Option (Nat × Str)) : List Tok :=
  ⟨0, lead⟩ :: (groupToks k groups ++ fracToks k frac)

def numText (lead : Str) (groups : List (Nat × Str)) (frac : Option (Nat × Str)) : Str := intText lead groups ++ fracText frac

/-- a token at which the sibling scan stops without judging the block: not an `mn`, and free of separator characters -/
def stops (S : Seps) (t : Tok) : Prop := t.kind ≠ 0 ∧ hasAny S.block t.text = false ∧ hasAny S.dec t.text = false

/-! ## the fraction is one more pair of a separator and a digit group -/

theorem splitToks_eq (k : Nat) (lead : Str) (groups : List (Nat × Str)) (frac : Option (Nat × Str)) :
    splitToks k lead groups frac = ⟨0, lead⟩ :: groupToks k (groups ++ frac.toList) := by
  cases frac <;> simp [splitToks, fracToks, groupToks, List.flatMap_append]

theorem numText_eq (lead : Str) (groups : List (Nat × Str)) (frac : Option (Nat × Str)) :
    numText lead groups frac = intText lead (groups ++ frac.toList) := by
  cases frac <;> simp [numText, fracText, intText, List.flatMap_append]

theorem pairs_digits {S : Seps} {lead : Str} {groups : List (Nat × Str)} (h : GoodInt S lead groups) {frac : Option (Nat × Str)}
    (hfr : ∀ d fd, frac = some (d, fd) → S.dec.contains d = true ∧ allDig fd = true ∧ fd ≠ []) :
    ∀ g ∈ groups ++ frac.toList, allDig g.2 = true ∧ g.2 ≠ [] := by
  intro g hg
  rcases List.mem_append.mp hg with hg | hg
  · obtain ⟨_, hd, hl⟩ := h.groupOk g hg
    exact ⟨hd, List.ne_nil_of_length_eq_add_one hl⟩
  · exact (hfr g.1 g.2 (Option.mem_toList.mp hg)).2

theorem GoodInt.lead_ne {S : Seps} {lead : Str} {groups : List (Nat × Str)} (h : GoodInt S lead groups) : lead ≠ [] :=
  List.ne_nil_of_length_pos h.leadLen.1

theorem digits_no_seps (S : Seps) (hS : GoodSeps S) (s : Str) (h : allDig s = true) :
    hasAny S.block s = false ∧ hasAny S.dec s = false := by
  simp only [hasAny, List.any_eq_false, Bool.not_eq_true]
  exact ⟨fun c hc => hS.dig_not_block c (allDig_iff.mp h c hc), fun c hc => hS.dig_not_dec c (allDig_iff.mp h c hc)⟩

theorem scan_mn (S : Seps) (dnm hd : Bool) (ds : Str) (r : List Tok) :
    scanSibs S dnm hd (⟨0, ds⟩ :: r) =
      if hasAny S.block ds || hasAny S.dec ds then (0, false) else ((scanSibs S dnm hd r).1 + 1, (scanSibs S dnm hd r).2) := by
  simp [scanSibs]

theorem scan_sep (S : Seps) (k : Nat) (hk : k = 1 ∨ k = 2) (hd : Bool) (c : Nat) (r : List Tok) :
    scanSibs S false hd (⟨k, [c]⟩ :: r) =
      if !(S.block.contains c || S.dec.contains c) || (S.dec.contains c && hd) then (0, S.dec.contains c && hd)
      else ((scanSibs S false (hd || S.dec.contains c) r).1 + 1, (scanSibs S false (hd || S.dec.contains c) r).2) := by
  rcases hk with rfl | rfl <;> simp [scanSibs, hasAny]

theorem scan_stop (S : Seps) (hd : Bool) (stop : Tok) (hstop : stops S stop) (rest : List Tok) :
    scanSibs S false hd (stop :: rest) = (0, false) := by
  obtain ⟨h0, hb, hdd⟩ := hstop
  by_cases h12 : stop.kind = 1 ∨ stop.kind = 2 <;> simp [scanSibs, h0, hb, hdd, h12]

theorem scan_pair (S : Seps) (hS : GoodSeps S) (k : Nat) (hk : k = 1 ∨ k = 2) (c : Nat) (ds : Str) (r : List Tok)
    (hc : (S.block.contains c || S.dec.contains c) = true) (hds : allDig ds = true) :
    scanSibs S false false (⟨k, [c]⟩ :: ⟨0, ds⟩ :: r) =
      ((scanSibs S false (S.dec.contains c) r).1 + 2, (scanSibs S false (S.dec.contains c) r).2) := by
  obtain ⟨h1, h2⟩ := digits_no_seps S hS ds hds
  simp only [scan_sep S k hk, scan_mn, hc, h1, h2, Bool.and_false, Bool.false_or, Bool.not_true, Bool.or_self, Bool.false_eq_true,
    if_false]

/-- a block separator does not count as a decimal mark (`disjoint`), so the mark of the fraction is the first the scan sees -/
theorem scan_split (S : Seps) (hS : GoodSeps S) (k : Nat) (hk : k = 1 ∨ k = 2) (groups : List (Nat × Str))
    (hg : ∀ g ∈ groups, S.block.contains g.1 = true ∧ allDig g.2 = true ∧ g.2.length = 3)
    (frac : Option (Nat × Str)) (hfr : ∀ d fd, frac = some (d, fd) → S.dec.contains d = true ∧ allDig fd = true)
    (stop : Tok) (hstop : stops S stop) (rest : List Tok) :
    scanSibs S false false (groupToks k (groups ++ frac.toList) ++ stop :: rest) = ((groupToks k (groups ++ frac.toList)).length, false) := by
  induction groups with
  | nil =>
    cases frac with
    | none => exact scan_stop S _ stop hstop rest
    | some p =>
      obtain ⟨hd, hfd⟩ := hfr p.1 p.2 rfl
      simp only [groupToks, Option.toList_some, List.nil_append, List.flatMap_cons, List.flatMap_nil, List.append_nil, List.cons_append]
      rw [scan_pair S hS k hk p.1 p.2 _ (by rw [hd, Bool.or_true]) hfd, scan_stop S _ stop hstop]
      rfl
  | cons g gs ih =>
    obtain ⟨hb, hdg, _⟩ := hg g (by simp)
    have ih' := ih fun g' hg' => hg g' (by simp [hg'])
    simp only [groupToks, List.cons_append, List.flatMap_cons, List.nil_append, List.length_cons] at ih' ⊢
    rw [scan_pair S hS k hk g.1 g.2 _ (by rw [hb]; rfl) hdg, hS.disjoint _ (List.contains_iff_mem.mp hb), ih']

/-- no two `mn` are neighbours, so no U+FFFF is put in -/
theorem gather_number (k : Nat) (hk : k ≠ 0) (lead : Str) (ps : List (Nat × Str)) :
    gather false (⟨0, lead⟩ :: groupToks k ps) = intText lead ps := by
  have pairs : gather true (groupToks k ps) = ps.flatMap fun g => g.1 :: g.2 := by
    induction ps with
    | nil => rfl
    | cons g gs ih =>
      simp only [groupToks, List.flatMap_cons, List.cons_append, List.nil_append] at ih ⊢
      simp [gather, hk, ih]
  simp [gather, intText, pairs]

theorem texts_number (k : Nat) (lead : Str) (ps : List (Nat × Str)) :
    ((⟨0, lead⟩ :: groupToks k ps : List Tok).map (·.text)).flatten = intText lead ps := by
  induction ps with
  | nil => simp [groupToks, intText]
  | cons g gs ih => simp_all [groupToks, intText]

theorem dig_not_ws (c : Nat) (h : isDig c = true) : isWsChar c = false := by
  simp only [isDig, Bool.and_eq_true, decide_eq_true_eq] at h
  simp only [isWsChar, Bool.or_eq_false_iff, Bool.and_eq_false_iff, decide_eq_false_iff_not]
  omega

theorem trimWs_id (s : Str) (hne : s ≠ []) (h1 : isWsChar (s.head hne) = false) (h2 : isWsChar (s.getLast hne) = false) :
    trimWs s = s := by
  have stop : ∀ (u : Str) (hu : u ≠ []), isWsChar (u.head hu) = false → span isWsChar u = ([], u) := by
    intro u hu h
    obtain ⟨c, r, rfl⟩ := List.exists_cons_of_ne_nil hu
    exact span_stop isWsChar c r h
  rw [trimWs, stop s hne h1, stop s.reverse (mt List.reverse_eq_nil_iff.mp hne) (by rwa [List.head_reverse]),
    List.reverse_reverse]

theorem digits_not_blank (ds : Str) (hne : ds ≠ []) (hd : allDig ds = true) : isBlankTok ⟨0, ds⟩ = false := by
  unfold isBlankTok
  rw [trimWs_id ds hne (dig_not_ws _ (allDig_iff.mp hd _ (List.head_mem hne)))
    (dig_not_ws _ (allDig_iff.mp hd _ (List.getLast_mem hne)))]
  exact List.isEmpty_eq_false_iff.mpr hne

theorem intText_head_digit (lead : Str) (hl : lead ≠ []) (hld : allDig lead = true) (ps : List (Nat × Str))
    (hne : intText lead ps ≠ []) : isDig ((intText lead ps).head hne) = true := by
  have e : (intText lead ps).head hne = lead.head hl := List.head_append_left hl
  rw [e]
  exact allDig_iff.mp hld _ (List.head_mem hl)

/-- a split number ends with a non-empty digit group, the lead group or that of the last pair: so its last token is not blank,
and its text, the concatenation of the tokens' texts, ends with a digit -/
theorem split_last (k : Nat) (lead : Str) (hl : lead ≠ []) (hld : allDig lead = true) (ps : List (Nat × Str))
    (hps : ∀ g ∈ ps, allDig g.2 = true ∧ g.2 ≠ []) (hne : intText lead ps ≠ []) :
    isBlankTok ((⟨0, lead⟩ :: groupToks k ps : List Tok).getLast (List.cons_ne_nil _ _)) = false ∧
      isDig ((intText lead ps).getLast hne) = true := by
  obtain ⟨pre, ds, hd, hds, e⟩ : ∃ pre ds, allDig ds = true ∧ ds ≠ [] ∧ (⟨0, lead⟩ :: groupToks k ps : List Tok) = pre ++ [⟨0, ds⟩] := by
    rcases List.eq_nil_or_concat ps with rfl | ⟨L, g, rfl⟩
    · exact ⟨[], lead, hld, hl, rfl⟩
    · exact ⟨⟨0, lead⟩ :: groupToks k L ++ [⟨k, [g.1]⟩], g.2, (hps g (by simp)).1, (hps g (by simp)).2,
        by simp [groupToks, List.flatMap_append]⟩
  have et : intText lead ps = (pre.map (·.text)).flatten ++ ds := by
    rw [← texts_number k, e]
    simp
  simp only [e, et, List.getLast_concat, List.getLast_append_right hds]
  exact ⟨digits_not_blank ds hds hd, allDig_iff.mp hd _ (List.getLast_mem hds)⟩

theorem mergeLoop_skip (S : Seps) (dnm : Bool) (f : Nat) (t : Tok) (r : List Tok) (h : canStart S dnm t = false) :
    mergeLoop S dnm (f + 1) (t :: r) = t :: mergeLoop S dnm f r := by
  simp [mergeLoop, h]

/-- the loop at a block `t :: blk` in front of `tail`: the scan takes exactly `blk`, the block looks like a number and merges
into the one token `x`; the loop goes on at `tail` -/
theorem mergeLoop_merge (S : Seps) (dnm : Bool) (f : Nat) (t x : Tok) (blk tail : List Tok) (hstart : canStart S dnm t = true)
    (hscan : scanSibs S dnm false (blk ++ tail) = (blk.length, false)) (hn : 1 ≤ blk.length)
    (hlikely : isLikely S (t :: blk) = true) (hnb : isBlankTok t = false) (hm : mergeBlock (t :: blk) = [x]) :
    mergeLoop S dnm (f + 1) (t :: (blk ++ tail)) = x :: mergeLoop S dnm f tail := by
  have hlead : (t :: blk).takeWhile isBlankTok = [] := List.takeWhile_cons_of_neg (Bool.eq_false_iff.mp hnb)
  simp [mergeLoop, hstart, hscan, hlikely, hlead, hm, hn]

/-- **a fully split number folds into the unsplit number**: standing at its first token, the loop puts out ONE `mn` whose
text is the number as a single token would have it, and goes on at `stop` -/
theorem fold_split (S : Seps) (hS : GoodSeps S) (k : Nat) (hk : k = 1 ∨ k = 2) (lead : Str) (groups : List (Nat × Str))
    (h : GoodInt S lead groups) (frac : Option (Nat × Str))
    (hfr : ∀ d fd, frac = some (d, fd) → S.dec.contains d = true ∧ allDig fd = true ∧ fd ≠ [])
    (hsplit : groups ≠ [] ∨ frac ≠ none) (stop : Tok) (hstop : stops S stop) (rest : List Tok) (f : Nat) :
    mergeLoop S false (f + 1) (splitToks k lead groups frac ++ stop :: rest) =
      ⟨0, numText lead groups frac⟩ :: mergeLoop S false f (stop :: rest) := by
  have hfr' : ∀ d fd, frac = some (d, fd) → S.dec.contains d = true ∧ allDig fd = true := fun d fd he => ⟨(hfr d fd he).1, (hfr d fd he).2.1⟩
  have hacc : blockPattern 3 S (numText lead groups frac) = true := by
    have := grammar_accepted S hS lead groups h frac hfr'
    -- `grammar_accepted` spells `fracText frac` as a `match`: the same term once `frac` is a constructor
    cases frac <;> exact this
  -- from here on the fraction is one more pair
  rw [numText_eq] at hacc
  rw [splitToks_eq, numText_eq, List.cons_append]
  have hps := pairs_digits h hfr
  have hlead := digits_not_blank lead h.lead_ne h.leadDig
  have hne : intText lead (groups ++ frac.toList) ≠ [] := by simp [intText, h.lead_ne]
  obtain ⟨hlastTok, hlastDig⟩ := split_last k lead h.lead_ne h.leadDig _ hps hne
  have htrim : trimWs (intText lead (groups ++ frac.toList)) = intText lead (groups ++ frac.toList) :=
    trimWs_id _ hne (dig_not_ws _ (intText_head_digit lead h.lead_ne h.leadDig _ hne)) (dig_not_ws _ hlastDig)
  have hlikely : isLikely S (⟨0, lead⟩ :: groupToks k (groups ++ frac.toList)) = true := by
    unfold isLikely numberText
    rw [gather_number k (by omega), htrim]
    simp [hacc]
  have hmerge : mergeBlock (⟨0, lead⟩ :: groupToks k (groups ++ frac.toList)) = [⟨0, intText lead (groups ++ frac.toList)⟩] := by
    rw [mergeBlock_ends _ (List.cons_ne_nil _ _) hlead hlastTok, texts_number]
  have hn : 1 ≤ (groupToks k (groups ++ frac.toList)).length := by
    rcases hsplit with hg | hf
    · obtain ⟨g, gs, rfl⟩ := List.exists_cons_of_ne_nil hg
      simp [groupToks]
    · obtain ⟨p, rfl⟩ := Option.ne_none_iff_exists'.mp hf
      simp [groupToks, List.flatMap_append]
  have hstart : canStart S false ⟨0, lead⟩ = true := by simp [canStart, digits_no_seps S hS lead h.leadDig]
  exact mergeLoop_merge S false f ⟨0, lead⟩ _ _ (stop :: rest) hstart
    (scan_split S hS k hk groups h.groupOk frac hfr' stop hstop rest) hn hlikely hlead hmerge

/-- the unsplit number is left as it is (it already contains its separators, so it does not start a block) -/
theorem unsplit_kept (S : Seps) (lead : Str) (groups : List (Nat × Str)) (h : GoodInt S lead groups)
    (frac : Option (Nat × Str)) (hfr : ∀ d fd, frac = some (d, fd) → S.dec.contains d = true ∧ allDig fd = true ∧ fd ≠ [])
    (hsplit : groups ≠ [] ∨ frac ≠ none) (r : List Tok) (f : Nat) :
    mergeLoop S false (f + 1) (⟨0, numText lead groups frac⟩ :: r) = ⟨0, numText lead groups frac⟩ :: mergeLoop S false f r := by
  -- an `mn` starts a block unless it holds a block separator, or is longer than one character and holds a decimal mark
  have key : hasAny S.block (numText lead groups frac) = true ∨
      (1 < (numText lead groups frac).length ∧ hasAny S.dec (numText lead groups frac) = true) := by
    rcases hsplit with hg | hf
    · obtain ⟨g, gs, rfl⟩ := List.exists_cons_of_ne_nil hg
      exact .inl (List.any_eq_true.mpr ⟨g.1, by simp [numText, intText], (h.groupOk g (by simp)).1⟩)
    · obtain ⟨p, rfl⟩ := Option.ne_none_iff_exists'.mp hf
      have hlen := List.length_pos_iff.mpr h.lead_ne
      exact .inr ⟨by simp only [numText, intText, fracText, List.length_append, List.length_cons]; omega,
        List.any_eq_true.mpr ⟨p.1, by simp [numText, fracText], (hfr p.1 p.2 rfl).1⟩⟩
  refine mergeLoop_skip S false f _ r ?_
  rcases key with hb | ⟨hlen, hd⟩
  · simp [canStart, hb]
  · simp [canStart, hlen, hd]

/-- **split = unsplit**: the scan gives the same row for the split spelling and for the single token -/
theorem split_eq_unsplit (S : Seps) (hS : GoodSeps S) (k : Nat) (hk : k = 1 ∨ k = 2) (lead : Str) (groups : List (Nat × Str))
    (h : GoodInt S lead groups) (frac : Option (Nat × Str))
    (hfr : ∀ d fd, frac = some (d, fd) → S.dec.contains d = true ∧ allDig fd = true ∧ fd ≠ [])
    (hsplit : groups ≠ [] ∨ frac ≠ none) (stop : Tok) (hstop : stops S stop) (rest : List Tok) (f : Nat) :
    mergeLoop S false (f + 1) (splitToks k lead groups frac ++ stop :: rest) =
      mergeLoop S false (f + 1) (⟨0, numText lead groups frac⟩ :: stop :: rest) := by
  rw [fold_split S hS k hk lead groups h frac hfr hsplit stop hstop rest f, unsplit_kept S lead groups h frac hfr hsplit (stop :: rest) f]

/-- non-vacuity: 12,345.67 in the English setting, followed by `+` -/
example : GoodSeps en ∧ GoodInt en [49, 50] [(44, [51, 52, 53])] ∧ stops en ⟨1, [43]⟩ ∧
    splitToks 1 [49, 50] [(44, [51, 52, 53])] (some (46, [54, 55])) = [t 0 "12", t 1 ",", t 0 "345", t 1 ".", t 0 "67"] ∧
    numText [49, 50] [(44, [51, 52, 53])] (some (46, [54, 55])) = "12,345.67".toList.map Char.toNat := by
  refine ⟨⟨?_, ?_, ?_⟩, ⟨?_, ?_, ?_⟩, ⟨?_, ?_, ?_⟩, ?_, ?_⟩ <;> decide +kernel

end MC.Props.C16
