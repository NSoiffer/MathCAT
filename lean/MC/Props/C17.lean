import MC.Spec.Preproc
/-!
# C17 — equivalent XML spellings give identical results (the string-rewriting half)

Finite facts over the regenerated entity table and regex parameters by `decide +kernel`; the behaviour of the scanners
on *every* string by induction.
-/
namespace MC.Props.C17
open MC.Preproc MC.Spec.Preproc

/-- both entry checks in one pass over the table -/
theorem table_ok :
    MC.Gen.Preproc.entities.all (fun e => nameMatched config.entClass e.1 && valueOk e.2.1 e.2.2) = true := by
  -- the table is a left-nested append of nine chunks: checked chunk by chunk, no entry is copied through the appends
  simp only [MC.Gen.Preproc.entities, List.all_append]
  decide +kernel

/-- every one of the entity names of entities.in is matched (whole) by the entity regex's character class -/
theorem every_entity_matched :
    MC.Gen.Preproc.entities.all (fun e => nameMatched config.entClass e.1) = true :=
  List.all_eq_true.mpr fun e he => (Bool.and_eq_true_iff.mp (List.all_eq_true.mp table_ok e he)).1

/-- every replacement text is XML-safe and denotes the HTML5/MathML definition of the entity -/
theorem values_xml_safe_and_standard :
    MC.Gen.Preproc.entities.all (fun e => valueOk e.2.1 e.2.2) = true :=
  List.all_eq_true.mpr fun e he => (Bool.and_eq_true_iff.mp (List.all_eq_true.mp table_ok e he)).2

/-- `;`, `#` and `&` are not entity-name characters (so numeric references are never touched) -/
theorem class_excludes_punct :
    inRanges config.entClass 59 = false ∧ inRanges config.entClass 35 = false ∧ inRanges config.entClass 38 = false := by
  decide +kernel

/-- the passes run in the order: entities, MathJax v2, MathJax v3, namespace declaration (once), prefix (all) -/
theorem pass_order : config.passes = [(0, 1), (1, 1), (2, 1), (3, 0), (4, 1)] := by decide +kernel

theorem span_append (p : Nat → Bool) (a : Str) (d : Nat) (r : Str) (ha : ∀ c ∈ a, p c = true) (hd : p d = false) :
    span p (a ++ d :: r) = (a, d :: r) := by
  induction a with
  | nil => simp [span, hd]
  | cons c cs ih =>
    have hc : p c = true := ha c (by simp)
    have ih' := ih (fun x hx => ha x (by simp [hx]))
    simp [span, hc, ih']

theorem entName_spec (cls : List (Nat × Nat)) (name rest : Str) (hne : name ≠ [])
    (hall : ∀ c ∈ name, inRanges cls c = true) (hsemi : inRanges cls 59 = false) :
    entName cls (38 :: (name ++ 59 :: rest)) = some (name, rest) := by
  simp only [entName]
  rw [span_append _ name 59 rest hall hsemi]
  cases name with
  | nil => exact absurd rfl hne
  | cons c cs => rfl

theorem entScan_skip (cls : List (Nat × Nat)) (tbl : Str → Option Str) (xs rest : Str) :
    entScan cls tbl xs.length (xs ++ rest) = entScan cls tbl 0 rest := by
  induction xs with
  | nil => rfl
  | cons x xs ih => simpa [entScan] using ih

/-- **the entity pass at `&name;`**, for every name over the class, on any text: a known name is replaced by exactly its table value,
an unknown one is kept and reported; the pass goes on behind the `;` (compositional substitution) -/
theorem entScan_entity (cls : List (Nat × Nat)) (tbl : Str → Option Str) (name rest : Str) (hne : name ≠ [])
    (hall : ∀ c ∈ name, inRanges cls c = true) (hsemi : inRanges cls 59 = false) :
    entScan cls tbl 0 (38 :: (name ++ 59 :: rest)) =
      match tbl name with
      | some v => (v ++ (entScan cls tbl 0 rest).1, (entScan cls tbl 0 rest).2)
      | none => (38 :: name ++ 59 :: (entScan cls tbl 0 rest).1,
          match (entScan cls tbl 0 rest).2 with | some u => some u | none => some name) := by
  have hskip : entScan cls tbl (name.length + 1) (name ++ 59 :: rest) = entScan cls tbl 0 rest := by
    have := entScan_skip cls tbl (name ++ [59]) rest
    simpa using this
  simp only [entScan, entName_spec cls name rest hne hall hsemi, hskip]
  cases tbl name <;> rfl

/-- **unknown entity is an error**: the scan reports an unknown name, so `set_mathml` bails. -/
theorem entity_unknown (cls : List (Nat × Nat)) (tbl : Str → Option Str) (name rest : Str) (hne : name ≠ [])
    (hall : ∀ c ∈ name, inRanges cls c = true) (hsemi : inRanges cls 59 = false) (hv : tbl name = none) :
    (entScan cls tbl 0 (38 :: (name ++ 59 :: rest))).2 ≠ none := by
  rw [entScan_entity cls tbl name rest hne hall hsemi, hv]
  cases (entScan cls tbl 0 rest).2 <;> simp

theorem entName_none_of_ne (cls : List (Nat × Nat)) (c : Nat) (cs : Str) (h : c ≠ 38) : entName cls (c :: cs) = none := by
  unfold entName
  split
  · rename_i heq
    exact absurd (List.cons.inj heq).1 h
  · rfl

/-- text without `&` is untouched by the entity pass -/
theorem entScan_no_amp (cls : List (Nat × Nat)) (tbl : Str → Option Str) (s : Str) (h : 38 ∉ s) :
    entScan cls tbl 0 s = (s, none) := by
  induction s with
  | nil => rfl
  | cons c cs ih =>
    have hc : c ≠ 38 := fun e => h (by simp [e])
    have ih' := ih (fun hm => h (by simp [hm]))
    simp [entScan, entName_none_of_ne cls c cs hc, ih']

/-- numeric character references are left for the XML parser: `&#…` is copied. -/
theorem numeric_ref_untouched (cls : List (Nat × Nat)) (tbl : Str → Option Str) (rest : Str)
    (hhash : inRanges cls 35 = false) :
    entScan cls tbl 0 (38 :: 35 :: rest) =
      (38 :: 35 :: (entScan cls tbl 0 rest).1, (entScan cls tbl 0 rest).2) := by
  have h1 : entName cls (38 :: 35 :: rest) = none := by
    simp [entName, span, hhash]
  have h2 : entName cls (35 :: rest) = none := entName_none_of_ne cls 35 rest (by decide)
  simp [entScan, h1, h2]

/-- for the actual table: every entity of entities.in, in any context, is substituted by its value. -/
theorem table_entity_substituted (e : Str × Str × Str) (he : e ∈ MC.Gen.Preproc.entities) (rest : Str)
    (v : Str) (hv : config.entity e.1 = some v) :
    entScan config.entClass config.entity 0 (38 :: (e.1 ++ 59 :: rest)) =
      (v ++ (entScan config.entClass config.entity 0 rest).1, (entScan config.entClass config.entity 0 rest).2) := by
  have hm : (!e.1.isEmpty && e.1.all (inRanges config.entClass)) = true := List.all_eq_true.mp every_entity_matched e he
  rw [Bool.and_eq_true, List.all_eq_true] at hm
  rw [entScan_entity _ _ _ _ (fun h0 => by rw [h0] at hm; cases hm.1) hm.2 class_excludes_punct.1, hv]

/-- for `replace_all` (`once = false`) the `done` flag is irrelevant -/
theorem scan_all_done_irrel (m : Matcher) (k : Nat) (d d' : Bool) (s : Str) :
    scan m false k d s = scan m false k d' s := by
  induction s generalizing k d d' with
  | nil => simp [scan]
  | cons c cs ih =>
    cases k with
    | succ k => simp only [scan]; exact ih k d d'
    | zero =>
      simp only [scan, Bool.false_and]
      split
      · rename_i h; simp at h
      · split
        · rw [ih _ true true]
        · rw [ih 0 d d']

theorem scan_skip (m : Matcher) (once : Bool) (d : Bool) (xs rest : Str) :
    scan m once xs.length d (xs ++ rest) = scan m once 0 d rest := by
  induction xs with
  | nil => cases rest <;> simp [scan]
  | cons x xs ih => simpa [scan] using ih

/-- `n`: the matcher reports the length of its match less one -/
theorem scan_replace (m : Matcher) (once d : Bool) (mt rest out : Str) (n : Nat) (hd : (once && d) = false)
    (hm : m (mt ++ rest) = some (n, out)) (hn : mt.length = n + 1) :
    scan m once 0 d (mt ++ rest) = out ++ scan m once 0 true rest := by
  cases mt with
  | nil => cases hn
  | cons x xs =>
    obtain rfl : xs.length = n := by simpa using hn
    simp only [List.cons_append] at hm ⊢
    simp only [scan, hd, Bool.false_eq_true, if_false, hm, scan_skip]

theorem nameSpan_spec (c : Nat) (cs : Str) (e : Nat) (rest : Str) (hc0 : isNameStart c = true)
    (hall : ∀ x ∈ cs, isNameChar x = true) (he : isNameChar e = false) :
    nameSpan ((c :: cs) ++ e :: rest) = some (c :: cs, e :: rest) := by
  simp only [nameSpan, List.cons_append, hc0, if_true, span_append isNameChar cs e rest hall he]

/-- the prefix pass at `lt` = `<` or `</`, a name and a colon: the match is all three, and `lt` is what is put back -/
theorem prefix_strip (lt : Str) (hlt : lt = [60] ∨ lt = [60, 47]) (c : Nat) (cs rest : Str) (d : Bool) (hc0 : isNameStart c = true)
    (hall : ∀ x ∈ cs, isNameChar x = true) :
    scan prefixMatch false 0 d (lt ++ (c :: cs) ++ 58 :: rest) = lt ++ scan prefixMatch false 0 true rest := by
  -- a name does not begin with `/`, so `<c…` is not read as an end tag
  have hc : c ≠ 47 := fun h => by rw [h] at hc0; cases hc0
  have hn := nameSpan_spec c cs 58 rest hc0 hall (by decide)
  simp only [List.cons_append] at hn
  have hm : prefixMatch (lt ++ (c :: cs) ++ 58 :: rest) = some (lt.length + (c :: cs).length, lt) := by
    rcases hlt with rfl | rfl
    · simp [prefixMatch, hc, hn]
      omega
    · simp [prefixMatch, hn]
      omega
  have e : lt ++ (c :: cs) ++ 58 :: rest = (lt ++ (c :: cs) ++ [58]) ++ rest := by simp
  rw [e] at hm ⊢
  exact scan_replace prefixMatch false d _ rest lt _ rfl hm (by simp only [List.length_append, List.length_singleton])

/-- **prefix stripping on tags**: `<p:` loses exactly the prefix and the colon, for every prefix that is an ASCII name
(a letter or `_`, then letters, digits, `_`, `.`, `-`: `m`, `mml`, `ns0`, `m_1`), in any context. -/
theorem prefix_strip_open (c : Nat) (cs rest : Str) (d : Bool) (hc0 : isNameStart c = true) (hall : ∀ x ∈ cs, isNameChar x = true) :
    scan prefixMatch false 0 d (60 :: ((c :: cs) ++ 58 :: rest)) = 60 :: scan prefixMatch false 0 true rest :=
  prefix_strip [60] (.inl rfl) c cs rest d hc0 hall

/-- the same for end tags: `</p:` loses the prefix and the colon -/
theorem prefix_strip_close (c : Nat) (cs rest : Str) (d : Bool) (hc0 : isNameStart c = true) (hall : ∀ x ∈ cs, isNameChar x = true) :
    scan prefixMatch false 0 d (60 :: 47 :: ((c :: cs) ++ 58 :: rest)) = 60 :: 47 :: scan prefixMatch false 0 true rest :=
  prefix_strip [60, 47] (.inr rfl) c cs rest d hc0 hall

/-- **the namespace declaration** `xmlns:p` becomes `xmlns` (first occurrence), for every prefix that is an ASCII name, when what follows
the name is not a name character (it is `=` in a document) -/
theorem nsdecl_rewritten (c : Nat) (cs : Str) (e : Nat) (rest : Str) (hc0 : isNameStart c = true) (hall : ∀ x ∈ cs, isNameChar x = true)
    (he : isNameChar e = false) :
    scan nsMatch true 0 false (xmlnsColon ++ (c :: cs) ++ e :: rest) = xmlnsWord ++ e :: scan nsMatch true 0 true rest := by
  have hm : nsMatch (xmlnsColon ++ (c :: cs) ++ e :: rest) = some (xmlnsColon.length + (c :: cs).length - 1, xmlnsWord) := by
    have hsp : stripPrefix? xmlnsColon (xmlnsColon ++ (c :: cs) ++ e :: rest) = some ((c :: cs) ++ e :: rest) := by
      simp [xmlnsColon, stripPrefix?]
    simp only [nsMatch, hsp, nameSpan_spec c cs e rest hc0 hall he]
  rw [scan_replace nsMatch true false (xmlnsColon ++ (c :: cs)) (e :: rest) xmlnsWord _ rfl hm (by simp [xmlnsColon]; omega)]
  -- the one replacement is done: `e` is copied
  simp [scan]

/-- the `.*?['"]` of the MathJax bookkeeping attribute `class="LIT…"` ends at the first quote: over a body without quote and
newline it takes the body and the quote -/
theorem lazyToQuote_spec (body : Str) (q : Nat) (rest : Str) (hq : isQuote q = true)
    (hb : ∀ c ∈ body, isQuote c = false ∧ c ≠ 10) : lazyToQuote (body ++ q :: rest) = some (body.length + 1) := by
  induction body with
  | nil => simp [lazyToQuote, hq]
  | cons c cs ih =>
    have hc := hb c (by simp)
    have ih' := ih (fun x hx => hb x (by simp [hx]))
    simp [lazyToQuote, hc.1, hc.2, ih']

/-- non-vacuity / worked examples on the real configuration -/
example : (preprocess config ("<m:mi class=\"MJX-x\">&alpha;&#x3b1;</m:mi>".toList.map Char.toNat)).toOption
    = some ("<mi >α&#x3b1;</mi>".toList.map Char.toNat) := by decide +kernel
example : (preprocess config ("<mi>&nosuchname;</mi>".toList.map Char.toNat)).toOption = none := by decide +kernel

end MC.Props.C17
