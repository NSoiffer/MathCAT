import MC.Model.Intent
/-!
# C19 — illegal intent values are ignored or reported as configured
-/
namespace MC.Props.C19
open MC.Intent

theorem span_length (p : Nat → Bool) (s : Str) : (span p s).1.length + (span p s).2.length = s.length := by
  induction s with
  | nil => rfl
  | cons c cs ih =>
    simp only [span]
    split
    · simp only [List.length_cons]; omega
    · simp

theorem span_snd_le (p : Nat → Bool) (s : Str) : (span p s).2.length ≤ s.length := by
  have := span_length p s; omega

theorem trimStart_le (s : Str) : (trimStart s).length ≤ s.length := span_snd_le _ s

theorem ncName_lt (s n r : Str) (h : ncName s = some (n, r)) : r.length < s.length := by
  unfold ncName at h
  split at h
  · rename_i c cs
    split at h
    · cases h
      exact Nat.lt_succ_of_le (span_snd_le isNameRest cs)
    · cases h
  · cases h

theorem numberBody_lt (s n r : Str) (h : numberBody s = some (n, r)) : r.length < s.length := by
  unfold numberBody at h
  have hl := span_length isDigit s
  split at h
  next => cases h                                  -- no digit in front: not a number
  next ds r2 hne hs =>                             -- digits `ds`, then `.`
    have hpos := List.length_pos_iff.mpr hne
    rw [hs] at hl
    simp only [List.length_cons] at hl
    split at h
    next =>                                        -- no digit behind the `.`: it stays in the rest
      cases h
      simp only [List.length_cons]; omega
    next hs2 =>                                    -- a fraction: the rest is what follows its digits
      cases h
      have := span_snd_le isDigit r2
      rw [hs2] at this
      simp only at this; omega
  next ds r2 hne _ hs =>                           -- digits `ds` and no `.` behind them
    have hpos := List.length_pos_iff.mpr hne
    cases h
    rw [hs] at hl
    simp only at hl; omega

theorem number_lt (s n r : Str) (h : number s = some (n, r)) : r.length < s.length := by
  unfold number at h
  split at h
  · rename_i r0
    obtain ⟨⟨n0, r1⟩, hb, he⟩ := Option.map_eq_some_iff.mp h
    cases he
    exact Nat.lt_succ_of_lt (numberBody_lt r0 n0 r hb)
  · exact numberBody_lt s n r h

/-- every branch on non-empty input returns `(tok …, trimStart r0)` with `r0` what `ncName` or `number` left of the input
or of its tail -/
theorem getNext_cases (s r : Str) (t : Tok) (h : getNext s = some (t, r)) :
    (s = [] ∧ t = .none ∧ r = []) ∨ (t ≠ .none ∧ r.length < s.length) := by
  unfold getNext at h
  split at h
  · cases h; exact .inl ⟨rfl, rfl, rfl⟩
  · rename_i c cs
    have leaf : ∀ (tok : Tok) (r0 : Str), some (tok, trimStart r0) = some (t, r) → tok ≠ .none →
        r0.length < (c :: cs).length → t ≠ .none ∧ r.length < (c :: cs).length := by
      intro tok r0 h ht hr
      cases h
      exact ⟨ht, Nat.lt_of_le_of_lt (trimStart_le r0) hr⟩
    right
    split at h
    · -- `(`, `,`, `)`
      exact leaf _ _ h nofun (Nat.lt_succ_self _)
    · split at h
      · -- `:` — a property name behind it, or else a number
        split at h
        next hn => exact leaf _ _ h nofun (Nat.lt_succ_of_lt (ncName_lt _ _ _ hn))
        next =>
          split at h
          next hn => exact leaf _ _ h nofun (number_lt _ _ _ hn)
          next => cases h
      · split at h
        · -- `$` — an argument name behind it
          split at h
          next hn => exact leaf _ _ h nofun (Nat.lt_succ_of_lt (ncName_lt _ _ _ hn))
          next => cases h
        · -- anything else: a name, or else a number
          split at h
          next hn => exact leaf _ _ h nofun (ncName_lt _ _ _ hn)
          next =>
            split at h
            next hn => exact leaf _ _ h nofun (number_lt _ _ _ hn)
            next => cases h

/-- **the lexer always makes progress**: every token other than end-of-input consumes at least one character -/
theorem getNext_progress (s r : Str) (t : Tok) (h : getNext s = some (t, r)) (ht : t ≠ .none) : r.length < s.length :=
  (getNext_cases s r t h).elim (fun h0 => absurd h0.2.1 ht) (·.2)

/-- the end-of-input token is produced only on empty input, so `assert!(remaining_str.is_empty())` after a complete
parse can never fire -/
theorem getNext_none (s r : Str) (h : getNext s = some (.none, r)) : s = [] ∧ r = [] :=
  (getNext_cases s r .none h).elim (fun h0 => ⟨h0.1, h0.2.2⟩) (fun h1 => absurd rfl h1.1)

theorem inferIntent_eq (E : Env) (errorMode rematchOk : Bool) (e : Elem) (s : Str) (he : e.intent = some s) :
    inferIntent E errorMode rematchOk e =
      (match parseIntent E s with
       | .ok t => .built t
       | .error err => if errorMode then .failed err else if rematchOk then .rematched else .failed .rules, e) := by
  obtain ⟨_⟩ := e
  cases he
  dsimp only [inferIntent]
  cases parseIntent E s with
  | ok t => rfl
  | error err => cases errorMode <;> cases rematchOk <;> rfl

/-- whatever happens, `infer_intent` leaves the element's intent attribute as it found it -/
theorem attribute_always_restored (E : Env) (errorMode rematchOk : Bool) (e : Elem) :
    (inferIntent E errorMode rematchOk e).2 = e := by
  cases he : e.intent with
  | none => simp only [inferIntent, he]
  | some s => rw [inferIntent_eq E errorMode rematchOk e s he]

/-- **IgnoreIntent**: an intent value that does not parse (bad grammar, missing argument, illegal nesting — any `Err`) never
makes processing fail by itself: the element is re-matched without the attribute -/
theorem ignore_mode_ignores (E : Env) (e : Elem) (s : Str) (err : Err) (he : e.intent = some s)
    (hp : parseIntent E s = .error err) : (inferIntent E false true e).1 = .rematched := by
  rw [inferIntent_eq E false true e s he, hp]
  rfl

/-- **Error**: the same input yields the error -/
theorem error_mode_reports (E : Env) (rematchOk : Bool) (e : Elem) (s : Str) (err : Err) (he : e.intent = some s)
    (hp : parseIntent E s = .error err) : (inferIntent E true rematchOk e).1 = .failed err := by
  rw [inferIntent_eq E true rematchOk e s he, hp]
  rfl

/-- a value that parses is honoured under both settings -/
theorem wellformed_honoured (E : Env) (errorMode rematchOk : Bool) (e : Elem) (s : Str) (t : ITree) (he : e.intent = some s)
    (hp : parseIntent E s = .ok t) : (inferIntent E errorMode rematchOk e).1 = .built t := by
  rw [inferIntent_eq E errorMode rematchOk e s he, hp]

/-- no panic on any element that carries an intent attribute (the only way `infer_intent` is entered) -/
theorem inferIntent_no_panic (E : Env) (errorMode rematchOk : Bool) (e : Elem) (s : Str) (he : e.intent = some s) :
    ∀ site, (inferIntent E errorMode rematchOk e).1 ≠ .panic site := by
  intro site
  rw [inferIntent_eq E errorMode rematchOk e s he]
  cases parseIntent E s <;> cases errorMode <;> cases rematchOk <;> nofun

/-! ## tests of the model on concrete values (tests, not theorems about all inputs) -/
def envT : Env := { arg := fun n => if n = [97] then .ok (some (.leaf [120])) else .ok none, selfOk := true }
def s (x : String) : Str := x.toList.map Char.toNat
example : (match parseIntent envT (s " f ( $a , 3.5 ) ") with
           | .ok (.elem n _ [.ref _ _ _, .leaf true _ _]) => n == s "f" | _ => false) = true := by decide +kernel
example : (match parseIntent envT (s "f(") with | .error _ => true | _ => false) = true := by decide +kernel
example : (match parseIntent envT (s "$zz") with | .error (.argNotFound _) => true | _ => false) = true := by decide +kernel
example : (match parseIntent envT (s "f($a))") with | .error (.syntax _) => true | _ => false) = true := by decide +kernel

end MC.Props.C19
