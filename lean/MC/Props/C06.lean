import MC.Props.Erase
import MC.Props.BrailleFinalLemmas
import MC.Model.TextCodes
import MC.Spec.BrailleFinal
/-!
# C06 — braille renders every operand: the clean-up phases that are modelled keep every literal as a contiguous run

* the two text codes completely (`LaTeX_cleanup`, `ASCIIMath_cleanup`): a literal is kept verbatim;
* the last phase of every cell code (`REPLACE_INDICATORS`, trimming, `COLLAPSE_SPACES`): a run of non-blank cells is kept.
The regex chains in front of the last phase of the cell codes (`nemeth_cleanup`, `remove_unneeded_mode_changes`, ...) are
NOT modelled; for them the property is decided on the implementation (planted literals, hook H3).
-/
namespace MC.Props.C06
open MC MC.TextCodes

def XT (c : Nat) : Bool := c = 32 || c = W || c = w

theorem isSpace_XT {c : Nat} (h : c = 32) : XT c = true := h ▸ rfl

theorem collapseSp_erase : ∀ s : Str, Erase XT s (collapseSp s) := by
  intro s
  fun_induction collapseSp s with
  | case1 r ih => exact Erase.del 32 (isSpace_XT rfl) ih   -- two spaces: the first goes
  | case2 c r _ ih => exact .keep c ih                     -- anything else is copied
  | case3 => exact .nil

theorem removeSpBefore_erase : ∀ s : Str, Erase XT s (removeSpBefore s) := by
  intro s
  fun_induction removeSpBefore s with
  | case1 c r h ih => exact Erase.del 32 (isSpace_XT rfl) (.keep c ih)   -- a space in front of a closer `c` goes
  | case2 c r h ih => exact .keep 32 ih                                  -- in front of anything else it stays
  | case3 c r _ ih => exact .keep c ih                                   -- no space
  | case4 => exact .nil

theorem dropSpaces_erase (s : Str) : Erase XT s (s.dropWhile (· = 32)) :=
  .of_edit (.dropWhile _ (fun _ h => isSpace_XT (of_decide_eq_true h)) s)

theorem trimSp_erase (s : Str) : Erase XT s (trimSp s) :=
  (dropSpaces_erase s).trans (.of_edit (.dropWhile_end _ (fun _ h => isSpace_XT (of_decide_eq_true h)) _))

/-- `mapW`, `mapw`: a space marker becomes a space -/
theorem unmark_erase (m : Nat) (hm : XT m = true) (s : Str) : Erase XT s (s.map fun c => if c = m then 32 else c) := by
  refine Erase.map_sub _ (fun c h => ?_) s
  by_cases hc : c = m
  · exact hc ▸ hm
  · exact absurd (if_neg hc) h

theorem stripPrefix_eq {pat s rest : Str} (h : stripPrefix? pat s = some rest) : s = pat ++ rest := by
  fun_induction stripPrefix? pat s with
  | case1 r => exact Option.some.inj h ▸ rfl   -- the pattern is used up: what is left is the rest
  | case2 => cases h                            -- the string ends first
  | case3 p ps cs ih => rw [ih h]; rfl          -- the heads agree
  | case4 => cases h                            -- the heads differ

theorem protect_erase : ∀ (f : Nat) (s : Str), Erase XT s (protect f s)
  | 0, s => Erase.refl s
  | _ + 1, [] => .nil
  | f + 1, c :: r => by
    rw [protect]
    split
    · rename_i rest hs
      rw [stripPrefix_eq hs]
      exact .keep 124 (Erase.sub W w (by decide) (.keep 95 (.keep 95 (.keep 124 (protect_erase f rest)))))
    · exact .keep c (protect_erase f r)

/-- the step shared by `spBeforeOp` and `spAfterOp`: the spaces in front of `d` are dropped -/
theorem skipSpaces_erase {r r' t : Str} {d : Nat} (hd : r.dropWhile (· = 32) = d :: r') (h : Erase XT r' t) :
    Erase XT r (d :: t) := (hd ▸ dropSpaces_erase r).trans (.keep d h)

theorem spBeforeOp_erase (extra : List Nat) : ∀ (f : Nat) (s : Str), Erase XT s (spBeforeOp extra f s) := by
  intro f s
  fun_induction spBeforeOp extra f s
  case case1 s => exact .refl s   -- out of fuel
  case case2 => exact .nil
  -- a word character, spaces, then an operator or closer `d`: the spaces go
  case case3 hd _ ih => exact .keep _ (skipSpaces_erase hd ih)
  -- every other branch copies the first character
  case case4 ih | case5 ih | case6 ih => exact .keep _ ih

theorem spAfterOp_erase (extra : List Nat) : ∀ (f : Nat) (s : Str), Erase XT s (spAfterOp extra f s) := by
  intro f s
  fun_induction spAfterOp extra f s
  case case1 s => exact .refl s   -- out of fuel
  case case2 => exact .nil
  -- an operator, spaces, then a word character `d`: the spaces go
  case case3 hd _ ih => exact .keep _ (skipSpaces_erase hd ih)
  -- every other branch copies the first character
  case case4 ih | case5 ih | case6 ih => exact .keep _ ih

theorem latexCleanup_erase (s : Str) : Erase XT s (latexCleanup s) := by
  unfold latexCleanup
  exact (((unmark_erase W (by decide) s).trans (collapseSp_erase _)).trans (removeSpBefore_erase _)).trans (trimSp_erase _)

theorem asciimathCleanup_erase (extra : List Nat) (s : Str) : Erase XT s (asciimathCleanup extra s) := by
  unfold asciimathCleanup
  exact (((((((protect_erase _ s).trans (unmark_erase W (by decide) _)).trans (collapseSp_erase _)).trans
    (spBeforeOp_erase extra _ _)).trans (spAfterOp_erase extra _ _)).trans (unmark_erase w (by decide) _)).trans
    (collapseSp_erase _)).trans (trimSp_erase _)

/-- **LaTeX**: whatever the rules wrote around it, a literal without space characters (digits, a decimal point or comma,
any run of non-space characters) is in the output verbatim and contiguous -/
theorem latex_keeps_literal (a r b : Str) (hr : ∀ c ∈ r, XT c = false) :
    ∃ a' b', latexCleanup (a ++ r ++ b) = a' ++ r ++ b' :=
  Erase.keeps_infix a r b _ hr (latexCleanup_erase _)

/-- **ASCIIMath**: the same, for every set of extra word characters -/
theorem asciimath_keeps_literal (extra : List Nat) (a r b : Str) (hr : ∀ c ∈ r, XT c = false) :
    ∃ a' b', asciimathCleanup extra (a ++ r ++ b) = a' ++ r ++ b' :=
  Erase.keeps_infix a r b _ hr (asciimathCleanup_erase extra _)

/-- digits and the decimal marks are not space characters: the hypothesis above holds for every numeric literal -/
theorem numeric_not_space (c : Nat) (h : (48 ≤ c ∧ c ≤ 57) ∨ c = 46 ∨ c = 44) : XT c = false := by
  have h1 : c ≠ 32 := by omega
  have h2 : c ≠ W := by unfold W; omega
  have h3 : c ≠ w := by unfold w; omega
  simp [XT, h1, h2, h3]

open MC.BrailleFinal MC.Spec.BrailleFinal

def XC (code : Nat) (c : Nat) : Bool := inRanges (classOf code) c || c = 0x2800

theorem replaceIndicators_erase (code : Nat) (pref : BrailleFinal.Str → BrailleFinal.Str) (s : BrailleFinal.Str) :
    Erase (XC code) s (replaceIndicators code pref s) := by
  refine Erase.flatMap_rep _ (fun c h => ?_) s
  by_cases hc : inRanges (classOf code) c = true
  · simp [XC, hc]
  · exact absurd (if_neg hc) h

theorem finalPhase_erase (code : Nat) (pref : BrailleFinal.Str → BrailleFinal.Str) (s : BrailleFinal.Str) :
    Erase (XC code) s (finalPhase code pref s) :=
  (replaceIndicators_erase code pref s).trans
    (.of_edit ((blanks_edit _).mono (fun c (h : c = 0x2800) => by simp [XC, h]) fun _ h => h))

/-- the indicator classes of the shipped codes contain no braille cell (decided over the regenerated class tables) -/
def classFreeOfCells (code : Nat) : Bool := (classOf code).all fun (lo, hi) => hi < 0x2800 || 0x28FF < lo

theorem classes_free_of_cells : codes.all classFreeOfCells = true := by decide +kernel

theorem cell_outside_class (code : Nat) (hcode : code ∈ codes) (c : Nat) (hc : isCell c = true) : inRanges (classOf code) c = false := by
  have h := List.all_eq_true.mp classes_free_of_cells code hcode
  unfold classFreeOfCells at h
  unfold inRanges
  rw [List.any_eq_false]
  intro p hp
  have := List.all_eq_true.mp h p hp
  simp only [isCell, Bool.and_eq_true, decide_eq_true_eq] at hc
  obtain ⟨lo, hi⟩ := p
  simp only [Bool.or_eq_true, decide_eq_true_eq] at this
  simp only [Bool.and_eq_true, decide_eq_true_eq, not_and]
  omega

/-- **cell codes, last phase**: a run of non-blank braille cells (the digit cells and the decimal-point cell of every
literal, in every code) that is contiguous before the last phase is contiguous after it -/
theorem finalPhase_keeps_cells (code : Nat) (hcode : code ∈ codes) (pref : BrailleFinal.Str → BrailleFinal.Str)
    (a r b : BrailleFinal.Str) (hr : ∀ c ∈ r, isCell c = true ∧ c ≠ 0x2800) :
    ∃ a' b', finalPhase code pref (a ++ r ++ b) = a' ++ r ++ b' := by
  apply Erase.keeps_infix a r b _ _ (finalPhase_erase code pref _)
  intro c hc
  obtain ⟨h1, h2⟩ := hr c hc
  simp [XC, cell_outside_class code hcode c h1, h2]

example : ∃ a' b', latexCleanup ([120, 32] ++ [49, 50, 46, 55, 53] ++ [32, 94, 50]) = a' ++ [49, 50, 46, 55, 53] ++ b' :=
  latex_keeps_literal _ _ _ (by decide)

end MC.Props.C06
