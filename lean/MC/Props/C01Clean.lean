import MC.Props.CleanShape
import MC.Props.C01Norm
/-!
# C01 for the clean-up pass (structural skeleton `MC.Clean`, tied to the library by hook H7)

`clean_conserves`: for EVERY tree (any element names, any nesting, any token text, any parent context) the skeleton of
`clean_mathml` returns a tree with the same visible token text up to the documented normalisations — or returns nothing
only when there was nothing visible.  "Same up to normalisation" is the contextual equivalence `Eqv`: whatever stands in
front and behind, `norm` (the C01 checker's normal form) of the whole text is unchanged, so the statement composes over
rows and survives the later passes.  `trim_visible` (`MC.Props.C01Trim`) is the same for `trim_element`.
-/
namespace MC.Props.C01Clean
open MC.Xml MC.Clean MC.Spec.Canon MC.Props.C01

/-- `a` and `b` are interchangeable in every context as far as the C01 checker's normal form can tell -/
def Eqv (a b : Str) : Prop := ∀ x y : Str, norm (x ++ a ++ y) = norm (x ++ b ++ y)

theorem Eqv.rfl_ (a : Str) : Eqv a a := fun _ _ => rfl
theorem Eqv.symm {a b : Str} (h : Eqv a b) : Eqv b a := fun x y => (h x y).symm
theorem Eqv.trans {a b c : Str} (h1 : Eqv a b) (h2 : Eqv b c) : Eqv a c := fun x y => (h1 x y).trans (h2 x y)
theorem Eqv.norm_eq {a b : Str} (h : Eqv a b) : norm a = norm b := by simpa using h [] []

theorem Eqv.append {a a' b b' : Str} (h1 : Eqv a a') (h2 : Eqv b b') : Eqv (a ++ b) (a' ++ b') := by
  intro x y
  have e1 := h1 x (b ++ y)
  have e2 := h2 (x ++ a') y
  simp only [List.append_assoc] at *
  rw [e1, e2]

theorem Eqv.of_expand {a b : Str} (h : expand a = expand b) : Eqv a b := by
  intro x y; unfold norm; rw [expand_append, expand_append, expand_append, expand_append, h]

theorem eqv_dash4 : Eqv [0x2015] [45, 45, 45, 45] := by
  intro x y
  unfold norm
  rw [expand_append, expand_append, expand_append, expand_append]
  have e1 : expand [0x2015] = [45, 45, 45] := by decide +kernel
  have e2 : expand [45, 45, 45, 45] = [45, 45, 45, 45] := by decide +kernel
  rw [e1, e2]
  simp only [List.append_assoc, List.cons_append, List.nil_append]
  exact (collapse_dd (expand x) (45 :: 45 :: expand y)).symm

mutual
/-- visible token characters, in document order: the text of the tokens; `mphantom` and the alignment marks contribute nothing -/
def visT : Node → Str
  | .text _ => []
  | .elem n _ kids =>
    if isLeafName n then (if tokenNames.contains n then textOf kids else [])
    else if n = s "mphantom" || n = s "malignmark" || n = s "maligngroup" then [] else visTL kids
def visTL : List Node → Str
  | [] => []
  | k :: ks => visT k ++ visTL ks
end

theorem visTL_append (a b : List Node) : visTL (a ++ b) = visTL a ++ visTL b := by
  induction a with
  | nil => simp [visTL]
  | cons k ks ih => simp [visTL, ih]

/-- the checker's white space is Rust's plus three zero-width characters -/
theorem isRustWs_isWs (c : Nat) (h : isRustWs c = true) : isWs c = true := by
  show (isRustWs c || c = 0x200B || c = 0x2060 || c = 0xFEFF) = true
  rw [h]; rfl

theorem expand_allWs (t : Str) (h : allWs t = true) : expand t = [] := by
  induction t with
  | nil => rfl
  | cons c r ih =>
    simp only [allWs, List.all_cons, Bool.and_eq_true] at h
    have hc : expandChar c = [] := (expandChar_nil_iff c).2 (by rw [isRustWs_isWs c h.1]; rfl)
    show expandChar c ++ expand r = []
    rw [hc, ih (by simpa [allWs] using h.2)]; rfl

theorem eqv_ws {t : Str} (h : allWs t = true) : Eqv t [] := Eqv.of_expand (by rw [expand_allWs t h]; rfl)
theorem eqv_nbsp : Eqv nbsp [] := eqv_ws (by decide +kernel)

theorem dash_eqv {t d : Str} (h : dash t = some d) : Eqv d t := by
  unfold dash at h
  split at h
  next h2 =>          -- `--` becomes `—`
    cases h
    subst h2
    exact Eqv.of_expand (by decide +kernel)
  next =>
    split at h
    next h34 =>       -- `---` and `----` become `―`
      cases h
      simp only [Bool.or_eq_true, decide_eq_true_eq] at h34
      rcases h34 with rfl | rfl
      · exact Eqv.of_expand (by decide +kernel)
      · exact eqv_dash4
    next => cases h

/-! ### the token arms -/

/-- outcome of cleaning a node whose visible text is `v`: what comes back shows the same text; nothing comes back only if nothing showed -/
def Res (o : Option Node) (v : Str) : Prop :=
  match o with
  | some r => Eqv (visT r) v
  | none => Eqv [] v

theorem leaf_mn : isLeafName (s "mn") = true := by decide +kernel
theorem leaf_mo : isLeafName (s "mo") = true := by decide +kernel
theorem leaf_mtext : isLeafName (s "mtext") = true := by decide +kernel
theorem leaf_none : isLeafName (s "none") = true := by decide +kernel
theorem tok_mn : tokenNames.contains (s "mn") = true := by decide +kernel
theorem tok_mo : tokenNames.contains (s "mo") = true := by decide +kernel
theorem tok_mtext : tokenNames.contains (s "mtext") = true := by decide +kernel
theorem tok_none : tokenNames.contains (s "none") = false := by decide +kernel

theorem tokNames_tok : ∀ {n : Str}, n ∈ tokNames → tokenNames.contains n = true := by decide +kernel

theorem visT_tok (n : Str) (attrs : List (Str × Str)) (t : Str) (hl : isLeafName n = true) (ht : tokenNames.contains n = true) :
    visT (leaf n attrs t) = t := by
  unfold leaf
  rw [visT, if_pos hl, if_pos ht]
  simp [textOf]

/-- the two placeholders show a no-break space, which the checker does not see -/
theorem eqv_makeEmpty (attrs : List (Str × Str)) : Eqv (visT (makeEmpty attrs)) [] :=
  (visT_tok _ _ _ leaf_mtext tok_mtext : visT (makeEmpty attrs) = nbsp) ▸ eqv_nbsp
theorem eqv_createEmpty : Eqv (visT createEmpty) [] :=
  (visT_tok _ _ _ leaf_mtext tok_mtext : visT createEmpty = nbsp) ▸ eqv_nbsp
theorem eqv_missing : Eqv (visTL [createEmpty]) [] := by
  rw [visTL, visTL, List.append_nil]
  exact eqv_createEmpty

theorem visT_elem {n : Str} (attrs : List (Str × Str)) (kids : List Node) (hl : isLeafName n = false) :
    visT (.elem n attrs kids) = if hidden n then [] else visTL kids := by
  rw [visT, if_neg (by simp [hl])]; rfl

theorem visT_plain {n : Str} (h : n ∈ [s "mrow", s "msub", s "msup"]) (attrs : List (Str × Str)) (kids : List Node) :
    visT (.elem n attrs kids) = visTL kids := by
  rw [visT_elem attrs kids (plain_names n h).1, (plain_names n h).2.1]
  rfl

theorem visT_mrow (attrs : List (Str × Str)) (kids : List Node) : visT (.elem (s "mrow") attrs kids) = visTL kids :=
  visT_plain List.mem_cons_self attrs kids

/-- a hyphen and a minus sign read alike -/
theorem eqv_sign (c : Nat) (r : Str) (h : c = 45 ∨ c = 0x2212) : Eqv (45 :: r) (c :: r) := by
  apply Eqv.of_expand
  rcases h with h | h <;> subst h
  · rfl
  · show expandChar 45 ++ expand r = expandChar 0x2212 ++ expand r
    rw [show expandChar 0x2212 = expandChar 45 by decide +kernel]

theorem Res.trans {o : Option Node} {v v' : Str} (h : Res o v) (hv : Eqv v v') : Res o v' := by
  cases o with
  | none => exact Eqv.trans h hv
  | some r => exact Eqv.trans h hv

theorem rewrites_eqv {t t' : Str} (h : Rewrites t t') : Eqv t' t := by
  cases h with
  | same => exact .rfl_ _
  | dash h => exact dash_eqv h
  | blank h => exact eqv_nbsp.trans (eqv_ws h).symm
  | dots h => subst h; exact .of_expand (by decide +kernel)
  | colons h => subst h; exact .of_expand (by decide +kernel)

theorem leafShape_res {prc : Bool} {n : Str} {attrs : List (Str × Str)} {t : Str} {o : Option Node} (h : LeafShape prc n attrs t o)
    (hl : isLeafName n = true) : Res o (if tokenNames.contains n then t else []) := by
  cases o with
  | none =>
    cases h with
    | gone _ ht =>
      subst ht
      rw [ite_self]
      exact .rfl_ _
  | some r =>
    show Eqv (visT r) _
    cases h with
    | placeholder ht =>
      subst ht
      rw [ite_self]
      exact eqv_makeEmpty attrs
    | @signed c r hn ht hc =>
      subst hn ht
      rw [if_pos tok_mn, visT_mrow]
      simp only [visTL, visT_tok _ _ _ leaf_mo tok_mo, visT_tok _ _ _ leaf_mn tok_mn]
      simpa using eqv_sign c r hc
    | token hn hn' hr =>
      rw [if_pos (tokNames_tok hn), visT_tok _ _ _ (tokNames_leaf hn') (tokNames_tok hn')]
      exact rewrites_eqv hr
    | space hn =>
      subst hn
      rw [if_neg (by decide +kernel), visT_tok _ _ _ leaf_mtext tok_mtext]
      exact eqv_nbsp
    | other _ _ =>
      -- any other leaf keeps its name and text
      rw [visT, if_pos hl]
      cases t <;> simp [textOf] <;> exact .rfl_ _

theorem visT_lift (attrs : List (Str × Str)) (k : Node) : visT (lift attrs k) = visT k := by
  cases k with
  | text t => rfl
  | elem n a kids => simp only [lift]; rw [visT, visT]

theorem assureOne_eqv (cs : List Node) : Eqv (visTL (assureOne cs)) (visTL cs) := by
  unfold assureOne
  split
  · exact eqv_missing
  · exact Eqv.rfl_ _
  · simp only [visTL, visT_mrow, List.append_nil]
    exact Eqv.rfl_ _

theorem isEmptyElement_eqv (k : Node) (h : isEmptyElement k = true) : Eqv (visT k) [] := by
  cases k with
  | text t => exact Eqv.rfl_ _
  | elem n attrs kids =>
    simp only [isEmptyElement, Bool.or_eq_true, Bool.and_eq_true, decide_eq_true_eq] at h
    rcases h with ⟨hl, hw⟩ | ⟨⟨hn, hk⟩, _⟩
    · -- a leaf with blank text
      rw [visT, if_pos hl]
      split
      · exact eqv_ws hw
      · exact Eqv.rfl_ _
    · -- an `mrow` without children
      rw [hn, visT_mrow, List.isEmpty_iff.mp hk]
      exact Eqv.rfl_ _

theorem thinned_eqv {a b : List Node} (h : Thinned a b) : Eqv (visTL a) (visTL b) := by
  induction h with
  | nil => exact .rfl_ _
  | keep x _ ih => exact (Eqv.rfl_ (visT x)).append ih
  | drop hx _ ih => exact (isEmptyElement_eqv _ hx).symm.append ih

theorem allEmpty_eqv (cs : List Node) (h : cs.all isEmptyElement = true) : Eqv [] (visTL cs) := thinned_eqv (.of_all h)

theorem visT_none (attrs : List (Str × Str)) : visT (.elem (s "none") attrs []) = [] := by
  rw [visT, if_pos leaf_none]; split <;> rfl

theorem built_res {prc : Bool} {n : Str} {a : List (Str × Str)} {cs : List Node} {o : Option Node} (hb : Built prc n a cs o)
    (hl : isLeafName n = false) (hh : hidden n = false) : Res o (visTL cs) := by
  have hn : ∀ ks, visT (.elem n a ks) = visTL ks := fun ks => by rw [visT_elem a ks hl, hh]; rfl
  cases o with
  | none =>
    cases hb with
    | gone _ he => exact allEmpty_eqv cs he
  | some r =>
    show Eqv (visT r) _
    cases hb with
    | placeholder he => exact (eqv_makeEmpty a).trans (allEmpty_eqv cs he)
    | noneEl he =>
      rw [visT_none]
      exact allEmpty_eqv cs he
    | missing he =>
      subst he
      exact eqv_createEmpty
    | bare he _ =>
      rw [hn]
      exact allEmpty_eqv cs he
    | @first k ks hc he =>
      subst hc
      simpa [visTL] using (Eqv.rfl_ (visT r)).append (allEmpty_eqv ks he)
    | lifted hc =>
      subst hc
      rw [visT_lift, visTL, visTL, List.append_nil]
      exact .rfl_ _
    | row ht =>
      rw [visT_mrow]
      exact thinned_eqv ht
    | wrapped ht _ =>
      rw [hn]
      exact (assureOne_eqv _).trans (thinned_eqv ht)
    | script _ hn' ht _ =>
      rw [visT_plain (.tail _ hn')]
      exact thinned_eqv ht
    | same _ =>
      rw [hn]
      exact .rfl_ _

theorem conserves_kept : Kept (fun t o => Res o (visT t)) (fun ks cs => Eqv (visTL cs) (visTL ks)) where
  text _ := Eqv.rfl_ _
  leaf hl ho := by rw [visT, if_pos hl]; exact leafShape_res ho hl
  hid hl hh := by
    rw [visT_elem _ _ hl, if_pos hh]
    exact ⟨Eqv.rfl_ _, eqv_makeEmpty _⟩
  built hl hh _ hc hb := by
    rw [visT_elem _ _ hl, hh]
    exact (built_res hb hl hh).trans hc
  missing := eqv_missing
  nil := Eqv.rfl_ _
  drop h1 h2 := Eqv.append h1 h2
  keep h1 h2 := Eqv.append h1 h2

/-- **C01 for the clean-up skeleton.**  For every node, in every parent context: if `clean_mathml` keeps the node, the visible
text of what it returns is the node's visible text up to the documented normalisations, in every surrounding context; if it
removes the node, the node showed nothing. -/
theorem clean_conserves (prc : Bool) (pn : Str) : (t : Node) → Res (clean prc pn t) (visT t) :=
  conserves_kept.holds prc pn
theorem cleanL_conserves (prc : Bool) (pn : Str) : (ts : List Node) → Eqv (visTL (cleanL prc pn ts)) (visTL ts) :=
  conserves_kept.holdsL prc pn

/-- the first phase of `canonicalize` on a whole expression (after `trim_element`): the visible text of the result is that of
the trimmed input, up to the normal form of the C01 checker -/
theorem cleanMath_conserves (t r : Node) (h : cleanMath t = some r) : norm (visT r) = norm (visT (trim t)) := by
  have := clean_conserves false (s "math") (trim t)
  unfold cleanMath at h
  rw [h] at this
  exact Eqv.norm_eq this

theorem clean_none_invisible (prc : Bool) (pn : Str) (t : Node) (h : clean prc pn t = none) : norm (visT t) = [] := by
  have := clean_conserves prc pn t
  rw [h] at this
  exact (Eqv.norm_eq this).symm

/-- on concrete trees: `x₍phantom y₎ −5` cleans to something showing `x-5` (the phantom gone, the sign split off), a phantom
in a row is removed, an `msubsup` whose scripts are blank collapses to its base, and four hyphens read like `―` -/
example : (cleanMath (.elem (s "math") [] [.elem (s "mrow") [] [.elem (s "mi") [] [.text (s " x ")], .elem (s "mphantom") [] [.elem (s "mi") [] [.text (s "y")]],
      .elem (s "mn") [] [.text [0x2212, 53]]]])).map visT = some (s "x-5") := by decide +kernel
example : (clean false (s "mrow") (.elem (s "mphantom") [] [.elem (s "mi") [] [.text (s "y")]])).isNone = true := by decide +kernel
example : (cleanMath (.elem (s "math") [] [.elem (s "msubsup") [] [.elem (s "mi") [] [.text (s "b")], .elem (s "mrow") [] [], .elem (s "mtext") [] [.text [0xA0]]]])).map nameOf
    = some (s "math") := by decide +kernel
example : norm (s "----") = norm [0x2015] := by decide +kernel

end MC.Props.C01Clean
