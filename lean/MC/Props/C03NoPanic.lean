import MC.Props.C03Stack
/-!
# The row parser never trips one of its asserts (C03 / C08)

`canonicalize_mrows_in_mrow` and its helpers contain seven `assert!`s / `unwrap`s on the modelled path (the `panic`
outcomes of `MC.Rows`). None of them is reachable, for EVERY sequence of tokens — with one exception that is real: the right
quotation marks `’` (U+2019) and `”` (U+201D) are right fences of priority 10, below the priority 20 of every other right
fence, and `( ’` does reach `parse_stack.pop().unwrap()` on an empty stack (`quote_after_paren_panics`). The library never
hands these two characters to the row parser as `mo` tokens (an earlier pass turns them into primes / pseudo scripts), which
is outside this model; the theorem therefore assumes that no token is one of them.

The invariant (`Inv`), for the stack of frames (head = top, last = bottom):
* every frame below the top one is waiting for an operand;
* the bottom frame still carries the fence post as its operator and holds nothing, or exactly one operand that is not a
  left-fence leaf (so a right fence that closes it finds no left fence, and opens a fresh frame instead of popping the last one);
* a frame that consists of a left-fence leaf (possibly followed by one operand) has an operator of priority at most 20, so
  that no operator that arrives later reduces it; a frame without children is waiting for an operand.
Between two tokens, additionally (`Bnd`): if the top frame ends in an operand, its last child is not an `mo` leaf.

Every result of `MC.Rows.ShiftAdd` is shown to keep the invariant, and its one panic (`stuck`) to contradict it.
-/
namespace MC.Props.C03NP
open MC.Rows

/-- the three kinds of look-up `find_operator` makes -/
def tys : List Nat := [1, 2, 4]

/-- the test `startsWithLeftFence` makes on the first child of a finished row -/
def LF (text : Str) : Bool := (findOperator text true true).isLeftFence

def quoteR (text : Str) : Bool := text == [0x2019] || text == [0x201D]

/-- what the argument needs of an operator found for a text (`lf`: `LF` of the text). F1: an operator that goes through
`reduce` has priority at least 20, so it reduces no frame that is just a left fence; F2: a frame opened at a left-fence text
has priority at most 20; F3: it is not the fence post, so it does not join the bottom frame as n-ary (`isNary_fencepost`). -/
def opOk (lf : Bool) (o : Op) : Bool :=
  (o.isLeftFence || o.isPrefix || decide (20 ≤ o.prio)) && (!lf || decide (o.prio ≤ 20)) && o.ident.1 != fencepost.ident.1

/-- the fence post is neither `+`, `−`, `×` nor the invisible times, so only an operator of its own text is n-ary with it -/
theorem isNary_fencepost {o : Op} (h : (o.ident.1 != fencepost.ident.1) = true) : isNary o fencepost = false := by
  have hf : isPlusMinus fencepost = false ∧ isTimes fencepost = false := by decide +kernel
  rw [isNary, hf.1, hf.2, Bool.false_and, Bool.false_and, Bool.or_false, Bool.or_false]
  exact decide_eq_false fun e => bne_iff_ne.mp h (congrArg Prod.fst e).symm

/-- the two right quotes fail F1 -/
theorem entries_ok : MC.Gen.OpDict.entries.all (fun e =>
    quoteR e.1 || tys.all fun ty => opOk (findInfo e.1 e.2 2).isLeftFence (findInfo e.1 e.2 ty)) = true := by decide +kernel

theorem defaults_ok : tys.all (fun ty => opOk (defaultOp 2).isLeftFence (defaultOp ty)) = true := by decide +kernel

/-- whatever the position, `find_operator` makes one of the three kinds of look-up, and the text is in the table or gets a
default -/
theorem findOperator_ok (text : Str) (l r : Bool) (hq : quoteR text = false) : opOk (LF text) (findOperator text l r) = true := by
  unfold LF findOperator
  -- `ty`: the kind of look-up that `find_operator` computes from the position
  generalize hty : (if (l && r) = true then 2 else _) = ty
  replace hty : ty ∈ tys := by subst hty; cases l <;> cases r <;> decide
  cases hl : lookupVariants text with
  | none => exact List.all_eq_true.mp defaults_ok ty hty
  | some vs =>
    obtain ⟨l₁, l₂, he, _⟩ := List.lookup_eq_some_iff.mp hl
    have := List.all_eq_true.mp entries_ok (text, vs) (by rw [he]; simp)
    rw [hq, Bool.false_or] at this
    exact List.all_eq_true.mp this ty hty

theorem impliedTimes_ok : opOk (LF [0x2062]) impliedTimes = true ∧ 20 ≤ impliedTimes.prio := by decide +kernel

theorem opOk_spec {lf : Bool} {o : Op} (h : opOk lf o = true) :
    (o.isLeftFence = false → o.isPrefix = false → 20 ≤ o.prio) ∧ (lf = true → o.prio ≤ 20) ∧ isNary o fencepost = false := by
  simp only [opOk, Bool.and_eq_true, Bool.or_eq_true, decide_eq_true_eq, Bool.not_eq_true'] at h
  obtain ⟨⟨h1, h2⟩, h3⟩ := h
  refine ⟨fun hl hp => ?_, fun hf => ?_, isNary_fencepost h3⟩
  · rcases h1 with (h | h) | h
    · rw [hl] at h; cases h
    · rw [hp] at h; cases h
    · exact h
  · rcases h2 with h | h
    · rw [hf] at h; cases h
    · exact h

def notLF : T → Bool
  | .op text _ => !LF text
  | _ => true

theorem notLF_row (ks : List T) : notLF (.row ks) = true := rfl
theorem notLF_operand (t : Str) : notLF (.operand t) = true := rfl

structure FrameOk (f : Frame) : Prop where
  one : ∀ text a, f.rkids = [.op text a] → LF text = true → f.op.prio ≤ 20
  two : ∀ k text a, f.rkids = [k, .op text a] → LF text = true → f.isOperand = true → f.op.prio ≤ 20
  nil : f.rkids = [] → f.isOperand = false

def BottomOk (b : Frame) : Prop :=
  b.op = fencepost ∧ ((b.rkids = [] ∧ b.isOperand = false) ∨ ∃ t, b.rkids = [t] ∧ b.isOperand = true ∧ notLF t = true)

def Inv (s : List Frame) : Prop :=
  (∃ b, s = [b] ∧ FrameOk b ∧ BottomOk b) ∨
  (∃ top mid b, s = top :: (mid ++ [b]) ∧ FrameOk top ∧ (∀ f ∈ mid, FrameOk f ∧ f.isOperand = false) ∧
      FrameOk b ∧ BottomOk b ∧ b.isOperand = false)

theorem Inv.single (b : Frame) (h1 : FrameOk b) (h2 : BottomOk b) : Inv [b] := Or.inl ⟨b, rfl, h1, h2⟩

/-- `Inv` read from the top, which is how every move of the parser meets it -/
theorem inv_cons {top : Frame} {rest : List Frame} : Inv (top :: rest) ↔
    FrameOk top ∧ (∀ f ∈ rest, FrameOk f ∧ f.isOperand = false) ∧ ∀ b ∈ (top :: rest).getLast?, BottomOk b := by
  constructor
  · rintro (⟨b, h, h1, h2⟩ | ⟨t, mid, b, h, h1, hm, hb, hbo, hbop⟩)
    · cases h
      exact ⟨h1, nofun, fun _ hb => by cases hb; exact h2⟩
    · cases h
      have hl : (top :: (mid ++ [b])).getLast? = some b := List.getLast?_concat (l := top :: mid)
      refine ⟨h1, fun f hf => ?_, fun _ hb' => by rw [hl] at hb'; cases hb'; exact hbo⟩
      rcases List.mem_append.mp hf with hf | hf
      · exact hm f hf
      · cases List.mem_singleton.mp hf
        exact ⟨hb, hbop⟩
  · rintro ⟨h1, hr, hb⟩
    rcases List.eq_nil_or_concat rest with rfl | ⟨mid, b, rfl⟩
    · exact .single top h1 (hb top rfl)
    · rw [List.concat_eq_append] at hr hb ⊢
      have hmid : ∀ f ∈ mid, FrameOk f ∧ f.isOperand = false := fun f hf => hr f (List.mem_append_left _ hf)
      have hlast := hr b (List.mem_append_right _ List.mem_cons_self)
      exact Or.inr ⟨top, mid, b, rfl, h1, hmid, hlast.1, hb b (List.getLast?_concat (l := top :: mid)), hlast.2⟩

theorem Inv.ne_nil {s : List Frame} (h : Inv s) : s ≠ [] := by
  rcases h with ⟨b, rfl, _⟩ | ⟨top, mid, b, rfl, _⟩ <;> exact List.cons_ne_nil _ _

theorem Inv.eq_cons {s : List Frame} (h : Inv s) : ∃ top rest, s = top :: rest := by
  cases s with
  | nil => exact absurd rfl h.ne_nil
  | cons top rest => exact ⟨top, rest, rfl⟩

theorem Inv.waiting {s : List Frame} (h : Inv s) : Waiting s := by
  obtain ⟨top, rest, rfl⟩ := h.eq_cons
  exact fun f hf => ((inv_cons.mp h).2.1 f hf).2

theorem Inv.topOk {top : Frame} {rest : List Frame} (h : Inv (top :: rest)) : FrameOk top := (inv_cons.mp h).1

theorem Inv.bottomOfSingle {b : Frame} (h : Inv [b]) : BottomOk b := (inv_cons.mp h).2.2 b rfl

theorem Inv.pop {top next : Frame} {rest : List Frame} (h : Inv (top :: next :: rest)) :
    Inv (next :: rest) ∧ next.isOperand = false := by
  obtain ⟨_, hr, hb⟩ := inv_cons.mp h
  obtain ⟨⟨hn, hw⟩, hr⟩ := List.forall_mem_cons.mp hr
  exact ⟨inv_cons.mpr ⟨hn, hr, hb⟩, hw⟩

theorem Inv.push {top : Frame} {rest : List Frame} (h : Inv (top :: rest)) (hop : top.isOperand = false)
    {F : Frame} (hF : FrameOk F) : Inv (F :: top :: rest) := by
  obtain ⟨ht, hr, hb⟩ := inv_cons.mp h
  exact inv_cons.mpr ⟨hF, List.forall_mem_cons.mpr ⟨⟨ht, hop⟩, hr⟩, hb⟩

theorem Inv.replaceTop {top : Frame} {rest : List Frame} (h : Inv (top :: rest)) {top' : Frame} (hF : FrameOk top')
    (hb : rest = [] → BottomOk top') : Inv (top' :: rest) := by
  obtain ⟨_, hr, hl⟩ := inv_cons.mp h
  refine inv_cons.mpr ⟨hF, hr, ?_⟩
  cases rest with
  | nil => exact fun b hb' => by cases hb'; exact hb rfl
  | cons => exact hl

theorem FrameOk.of_waiting {ks : List T} {o : Op} (h : ∀ text a, ks = [.op text a] → LF text = true → o.prio ≤ 20) :
    FrameOk ⟨ks, o, false⟩ :=
  ⟨h, fun _ _ _ _ _ h => (nomatch h), fun _ => rfl⟩

theorem frameOk_new : FrameOk Frame.new := .of_waiting nofun

theorem frameOk_addOp (f : Frame) {text : Str} (a : Bool) {o : Op} (hok : opOk (LF text) o = true) :
    FrameOk (f.addOp (.op text a) o) :=
  .of_waiting fun _ _ heq hlf => by
    obtain ⟨rfl, -⟩ := T.op.inj (List.cons.inj heq).1
    exact (opOk_spec hok).2.1 hlf

theorem FrameOk.absorb {f : Frame} (hf : FrameOk f) {t : T} (hn : notLF t = true) : FrameOk (f.absorb t) := by
  refine ⟨fun text a heq hlf => ?_, fun k text a heq hlf _ => hf.one text a (List.cons.inj heq).2 hlf, fun heq => (nomatch heq)⟩
  rw [(List.cons.inj heq).1, notLF, hlf] at hn
  cases hn

theorem Inv.absorb {top : Frame} {rest : List Frame} (h : Inv (top :: rest)) (hop : top.isOperand = false) {t : T} (hn : notLF t = true) :
    Inv (top.absorb t :: rest) := by
  refine h.replaceTop (h.topOk.absorb hn) fun hr => ?_
  -- the bottom frame was empty, and now holds the one operand
  subst hr
  obtain ⟨hfp, ⟨he, _⟩ | ⟨_, _, h2, _⟩⟩ := h.bottomOfSingle
  · exact ⟨hfp, .inr ⟨t, by rw [Frame.absorb, he], rfl, hn⟩⟩
  · rw [hop] at h2; cases h2

theorem Inv.cut {top : Frame} {rest : List Frame} (h : Inv (top :: rest)) {last : T} {init : List T} (hk : top.rkids = last :: init)
    (hop : top.isOperand = true) : Inv (top.cut init :: rest) := by
  refine h.replaceTop (.of_waiting fun text a heq hlf => h.topOk.two last text a (heq ▸ hk) hlf hop) fun hr => ?_
  -- in the bottom frame the operand was the only child
  subst hr
  obtain ⟨hfp, ⟨he, _⟩ | ⟨t, he, _⟩⟩ := h.bottomOfSingle
  · rw [he] at hk; cases hk
  · rw [he] at hk; cases hk
    exact ⟨hfp, .inl ⟨rfl, rfl⟩⟩

theorem close_notLF (top : Frame) (h : FrameOk top) (cur : Nat) (hc : 20 ≤ cur) (hlt : cur < top.op.prio) :
    notLF top.close = true := by
  unfold Frame.close
  split
  · rename_i t heq
    cases t with
    | op text a =>
      cases hlf : LF text with
      | false => simp [notLF, hlf]
      | true => have := h.one text a heq hlf; omega
    | operand _ => rfl
    | row _ => rfl
  · rfl

theorem reduce_inv (cur : Nat) (hc : 20 ≤ cur) (fuel : Nat) (s : List Frame) (h : Inv s) : ∃ s', reduce cur fuel s = .ok s' ∧ Inv s' := by
  obtain ⟨s', he⟩ := reduce_ok cur fuel s h.waiting
  exact ⟨s', he, reduce_ind (fun top _ _ hlt hw h => h.pop.1.absorb hw (close_notLF top h.topOk cur hc hlt)) fuel s s' he h⟩

def Bnd (s : List Frame) : Prop := topIsOperand s = true → lastIsOperandNode s = true

theorem bnd_of_not_operand {f : Frame} (rest : List Frame) (h : f.isOperand = false) : Bnd (f :: rest) :=
  fun h' => Bool.noConfusion (h.symm.trans h')

theorem startsWithLeftFence_two (child t : T) (o : Op) (hn : notLF t = true) :
    startsWithLeftFence ⟨[child, t], o, false⟩ = false := by
  cases t with
  | op text a => simpa [notLF, LF, startsWithLeftFence, firstKid] using hn
  | operand _ => rfl
  | row _ => rfl

/-- The one way to get stuck is a right fence that closes a frame with nowhere to put it: the frame below holds an operand
already (but it waits), or there is none (but the bottom frame is empty or one operand that is no left fence, and then the
fence opens a fresh frame instead). -/
theorem reduceShift_inv (s : List Frame) (h : Inv s) (text : Str) (a : Bool) (o : Op) (hok : opOk (LF text) o = true) (hprio : 20 ≤ o.prio) :
    ∃ s', reduceShift s (.op text a) o = .ok s' ∧ Inv s' ∧ Bnd s' := by
  obtain ⟨s1, hr, h⟩ := reduce_inv o.prio hprio s.length s h
  obtain ⟨top, rest, rfl⟩ := h.eq_cons
  simp only [reduceShift, hr, Outcome.bind]
  have hs := shiftAdd_spec top rest (.op text a) o
  generalize shiftAdd (top :: rest) (.op text a) o = x at hs ⊢
  cases hs with
  | stuck _ hne hst hhead =>
    cases rest with
    | nil =>
      rcases h.bottomOfSingle.2 with ⟨he, _⟩ | ⟨t, he, _, hn⟩
      · exact absurd he hne
      · have := hst t he
        rw [startsWithLeftFence_two _ t o hn] at this
        cases this
    | cons below _ =>
      have := hhead below rfl
      rw [h.pop.2] at this
      cases this
  | nary hn =>
    refine ⟨_, rfl, h.replaceTop (frameOk_addOp top a hok) fun hr => ?_, bnd_of_not_operand _ rfl⟩
    -- not on the bottom frame: its operator is still the fence post, and nothing is n-ary with that
    subst hr
    rw [h.bottomOfSingle.1, (opOk_spec hok).2.2] at hn
    cases hn
  | opened _ hw => exact ⟨_, rfl, h.push (hw.elim h.topOk.nil id) (frameOk_addOp Frame.new a hok), bnd_of_not_operand _ rfl⟩
  | orphan t _ hk =>
    have hF : FrameOk (Frame.new.absorb (.row [t, .op text a])) := frameOk_new.absorb rfl
    refine ⟨_, rfl, ?_, fun _ => rfl⟩
    cases rest with
    | nil => exact .single _ hF ⟨rfl, Or.inr ⟨_, rfl, rfl, rfl⟩⟩
    | cons => exact h.pop.1.push h.pop.2 hF
  | closed below rest' _ hb hw =>
    subst hb
    exact ⟨_, rfl, h.pop.1.absorb hw rfl, fun _ => rfl⟩
  | postfixOp last init _ hk hop => exact ⟨_, rfl, (h.cut hk hop).absorb rfl rfl, fun _ => rfl⟩
  | infixOp last init hk hop => exact ⟨_, rfl, (h.cut hk hop).push rfl (.of_waiting nofun), bnd_of_not_operand _ rfl⟩

theorem impliedIf_inv (c : Bool) (s : List Frame) (h : Inv s) : ∃ s', impliedIf c s = .ok s' ∧ Inv s' := by
  unfold impliedIf
  split
  · obtain ⟨s', he, h', _⟩ := reduceShift_inv s h [0x2062] true impliedTimes impliedTimes_ok.1 impliedTimes_ok.2
    exact ⟨s', he, h'⟩
  · exact ⟨s, rfl, h⟩

/-- a token that the library can hand to the row parser: not one of the two right quotation marks (see the head of the file) -/
def tokOk : Tok → Bool
  | .mo text => !quoteR text
  | .operand _ => true

theorem step_inv (s : List Frame) (h : Inv s) (hb : Bnd s) (tok : Tok) (nxt : Bool) (ht : tokOk tok = true) :
    ∃ s', step s tok nxt = .ok s' ∧ Inv s' ∧ Bnd s' := by
  cases tok with
  | operand text =>
    obtain ⟨s1, he, h1⟩ := impliedIf_inv (lastIsOperandNode s) s h
    have hw := impliedIf_waiting he hb
    obtain ⟨top, rest, rfl⟩ := h1.eq_cons
    exact ⟨top.absorb (.operand text) :: rest,
      by rw [step_operand, he]; exact addToTop_none_eq_ok.mpr ⟨top, rest, rfl, hw, rfl⟩, h1.absorb hw rfl, fun _ => rfl⟩
  | mo text =>
    simp only [step_mo]
    have hok := findOperator_ok text (topIsOperand s || (topOp s).isPostfix) nxt (by simpa [tokOk] using ht)
    generalize findOperator text (topIsOperand s || (topOp s).isPostfix) nxt = o at hok ⊢
    split
    next =>
      -- a prefix operator or a left fence opens a frame
      obtain ⟨s1, he, h1⟩ := impliedIf_inv (topIsOperand s) s h
      have hw := impliedIf_waiting he id
      obtain ⟨top, rest, rfl⟩ := h1.eq_cons
      exact ⟨_, by rw [he]; rfl, h1.push hw (frameOk_addOp Frame.new false hok), bnd_of_not_operand _ rfl⟩
    next hpf =>
      -- infix, postfix or right fence: reduce, shift, add
      obtain ⟨hlf, hpx⟩ := Bool.or_eq_false_iff.mp (Bool.eq_false_iff.mpr hpf)
      exact reduceShift_inv s h text false o hok ((opOk_spec hok).1 hlf hpx)

theorem run_inv : ∀ (toks : List Tok) (s : List Frame), Inv s → Bnd s → (∀ t ∈ toks, tokOk t = true) →
    ∃ s', run s toks = .ok s' ∧ Inv s'
  | [], s, h, _, _ => ⟨s, rfl, h⟩
  | t :: ts, s, h, hb, hall => by
    obtain ⟨s1, he, h1, hb1⟩ := step_inv s h hb t _ (hall t (by simp))
    obtain ⟨s2, he2, h2⟩ := run_inv ts s1 h1 hb1 fun x hx => hall x (by simp [hx])
    exact ⟨s2, Outcome.bind_eq_ok.mpr ⟨s1, he, he2⟩, h2⟩

theorem inv_init : Inv [Frame.new] ∧ Bnd [Frame.new] :=
  ⟨.single _ frameOk_new ⟨rfl, Or.inl ⟨rfl, rfl⟩⟩, bnd_of_not_operand _ rfl⟩

/-- **the row parser never panics**: for every sequence of tokens (operands and `mo`s with any text, in any order and
number) that does not contain `’` or `”` as an `mo`, the parse ends in a tree: none of the `assert!`s and `unwrap`s of
`canonicalize_mrows_in_mrow`, `shift_stack`, `reduce_stack_one_time`, `add_child_to_mrow` and
`remove_last_operand_from_mrow` is reachable. -/
theorem parseRow_no_panic (toks : List Tok) (h : ∀ t ∈ toks, tokOk t = true) : ∃ t, parseRow toks = .ok t := by
  obtain ⟨s, hr, hs⟩ := run_inv toks [Frame.new] inv_init.1 inv_init.2 h
  obtain ⟨s1, hf⟩ := reduce_ok fencepost.prio s.length s hs.waiting
  cases s1 with
  | nil => exact absurd rfl (MC.Props.C03.reduce_ne_nil _ _ _ _ hf hs.ne_nil)
  | cons f rest => exact ⟨_, parseRow_eq_ok.mpr ⟨s, hr, finish_eq_ok.mpr ⟨f, rest, hf, rfl⟩⟩⟩

def isPanic {α : Type} : Outcome α → Bool
  | .panic _ => true
  | _ => false

/-- the hypothesis is needed: `( ’` reaches `parse_stack.pop().unwrap()` on an empty stack (in the model; the library
turns the quotation mark into a prime before the row is parsed) -/
theorem quote_after_paren_panics : isPanic (parseRow [.mo [40], .mo [0x2019]]) = true := by decide +kernel

/-- non-vacuity: a row with every kind of token satisfies the hypothesis -/
example : ∀ t ∈ [Tok.mo [40], .operand [97], .mo [43], .mo [45], .operand [98], .mo [41], .mo [33], .mo [124], .mo [0x201C]], tokOk t = true := by decide

end MC.Props.C03NP
