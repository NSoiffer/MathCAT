import MC.Model.Nav
/-!
# C11 — navigation always rests on a node of the current expression

`ids` is the id set of the expression that is set (`inTreeId` of the model). Assumed of the navigation rules, and monitored on
every command of the correspondence run through hook H1: `TryOk`, the `NavNode` a rule answers is an id of that expression or
"!not set". A successful command is a sequence of six elementary updates (`Update`), so what each of them keeps the command
keeps (`doCommand_preserves`); every clause of C11 about commands is such a property.
-/
namespace MC.Props.C11
open MC.Nav

def Inv (ids : String → Bool) (s : NavState) : Prop :=
  s.positions.length = s.commands.length ∧ (∀ p ∈ s.positions, ids p.id = true) ∧
  (∀ m ∈ s.markers, ids m.id = true ∨ m.id = illegal) ∧ s.markers.length = 10

def TryOk (ids : String → Bool) (t : Try) : Prop := ∀ p, t.node = some p → ids p.id = true ∨ p.id = illegal

theorem bind_eq_ok {α β : Type} {x : Outcome α} {f : α → Outcome β} {b : β} (h : x.bind f = .ok b) :
    ∃ a, x = .ok a ∧ f a = .ok b := by
  cases x with
  | ok a => exact ⟨a, rfl, h⟩
  | err k => cases h
  | panic p => cases h

theorem top_eq_some {s : NavState} {p : Pos} {c : String} (h : top s = some (p, c)) :
    ∃ ps cs, s.positions = p :: ps ∧ s.commands = c :: cs := by
  unfold top at h
  split at h
  · rename_i hp hc; cases h; exact ⟨_, _, hp, hc⟩
  · cases h

theorem top_mem (s : NavState) (p : Pos) (c : String) (h : top s = some (p, c)) : p ∈ s.positions := by
  obtain ⟨ps, _, hp, _⟩ := top_eq_some h
  simp [hp]

theorem pop_ok {s s' : NavState} {r : Option (Pos × String)} (h : pop s = .ok (r, s')) :
    (∃ p ps c cs, s.positions = p :: ps ∧ s.commands = c :: cs ∧ r = some (p, c) ∧
      s' = { s with positions := ps, commands := cs }) ∨ (r = none ∧ s' = s) := by
  unfold pop at h
  split at h
  · cases h
  · split at h
    · rename_i hp hc; cases h; exact .inl ⟨_, _, _, _, hp, hc, rfl, rfl⟩
    · cases h; exact .inr ⟨rfl, rfl⟩

theorem popLoop_ok : ∀ {n : Nat} {s s' : NavState}, popLoop n s = .ok s' →
    ∃ k, s' = { s with positions := s.positions.drop k, commands := s.commands.drop k }
  | 0, s, s', h => by unfold popLoop at h; cases h; exact ⟨0, rfl⟩
  | n + 1, s, s', h => by
    unfold popLoop at h
    split at h
    · cases h; exact ⟨0, rfl⟩
    · split at h
      · split at h
        · rename_i hp
          rcases pop_ok hp with ⟨p, ps, c, cs, ep, ec, -, rfl⟩ | ⟨-, rfl⟩
          · obtain ⟨k, rfl⟩ := popLoop_ok h
            exact ⟨k + 1, by simp [ep, ec]⟩
          · exact popLoop_ok h
        · cases h
        · cases h
      · exact popLoop_ok h

theorem popStack_ok {s s' : NavState} {n : Nat} (h : popStack s n = .ok s') :
    s' = s ∨ ∃ p ps c cs k, s.positions = p :: ps ∧ s.commands = c :: cs ∧
      s' = { s with positions := p :: ps.drop k, commands := c :: cs.drop k } := by
  unfold popStack at h
  split at h
  next => cases h; exact .inl rfl   -- count 0: nothing is done
  next =>
    split at h
    next hp =>   -- the top entry is taken off, ...
      rcases pop_ok hp with ⟨p, ps, c, cs, ep, ec, er, rfl⟩ | ⟨er, -⟩
      · cases er
        split at h
        next hl =>   -- ... the loop removes entries below it, and the top entry goes back on
          obtain ⟨k, rfl⟩ := popLoop_ok hl
          cases h
          exact .inr ⟨_, ps, _, cs, k, ep, ec, rfl⟩
        next => cases h   -- the loop failed
        next => cases h
      · cases er
    next => cases h   -- the stack was empty: the `unwrap` panics
    next => cases h   -- `pop` failed
    next => cases h

theorem pushStep_ok {cmd : String} {t : Try} {s s' : NavState} (h : pushStep cmd t s = .ok s') :
    s' = s ∨ (isMoveOrZoom cmd = true ∧ ∃ p, t.node = some p ∧ p.id ≠ illegal ∧ s' = push s p cmd) := by
  unfold pushStep at h
  simp only at h
  split at h
  next hm =>   -- a Move/Zoom command
    split at h
    next =>   -- the rules answered something other than the default position
      split at h
      next => cases h   -- empty stack: the `unwrap` panics
      next =>
        split at h
        next hne =>   -- the node is not the one on top: it is pushed
          cases h
          -- the id of the pushed node is not `illegal`, the id of the default that stands for "no answer"
          cases hn : t.node with
          | none => simp [hn, Pos.dflt] at hne
          | some p =>
            simp only [hn, Option.getD_some, ne_eq, Bool.and_eq_true, decide_eq_true_eq] at hne ⊢
            exact .inr ⟨hm, p, rfl, hne.2, rfl⟩
        next => cases h; exact .inl rfl   -- the node on top again, or the `illegal` id
    next => cases h; exact .inl rfl   -- the default position: no answer
  next => cases h; exact .inl rfl   -- another command

theorem markerStep_ok {cmd : String} {t : Try} {s s' : NavState} (h : markerStep cmd t s = .ok s') :
    s' = s ∨ (cmd.startsWith "SetPlacemarker" = true ∧ ∃ k p, markerIndex cmd = some k ∧ t.node = some p ∧
      s' = { s with markers := s.markers.set k p }) := by
  unfold markerStep at h
  split at h
  next hm =>   -- a `SetPlacemarker…` command
    split at h
    next p hp =>   -- the rules answered the node `p`
      split at h
      next k hk =>   -- the command ends in the digit `k`
        split at h
        next => cases h; exact .inr ⟨hm, k, p, hk, hp, rfl⟩   -- marker `k` exists: it is written
        next => cases h   -- index out of range: panic
      next => cases h   -- no digit: the assert panics
    next => cases h; exact .inl rfl   -- no answer
  next => cases h; exact .inl rfl   -- another command

theorem finishStep_ok {i : Nat} {t : Try} {s s' : NavState} {d : Bool} (h : finishStep i t s = .ok (s', d)) :
    s' = s ∨ popStack s i = .ok s' := by
  unfold finishStep at h
  split at h
  next =>   -- asked to speak a node of the tree
    split at h
    next => cases h   -- speaking failed
    next =>
      split at h
      next => cases h; exact .inl rfl   -- empty speech: the state is handed to the next try as it is
      next =>   -- speech: the stack is cleaned
        obtain ⟨s4, h4, he⟩ := bind_eq_ok h
        cases he; exact .inr h4
  next =>   -- nothing to speak: the stack is cleaned
    obtain ⟨s4, h4, he⟩ := bind_eq_ok h
    cases he; exact .inr h4

theorem setNode_ok {s s' : NavState} {id : String} {off : Nat} {found leaf : Bool} (h : setNode s id off found leaf = .ok s') :
    found = true ∧ s' = push (reset s) ⟨id, off⟩ "None" := by
  unfold setNode at h
  split at h
  · cases h
  · rename_i hf
    split at h
    · cases h
    · cases h; exact ⟨by simpa using hf, rfl⟩

/-- The elementary state changes a command `cmd` is made of: the initial push of the root, the pop that starts
`MoveLastLocation`, the mode the rules set, the push of a Move/Zoom, the marker of a `SetPlacemarker`, and the removal of
intermediate entries by `pop_stack`. `N` holds of the nodes the rules answered. -/
inductive Update (root cmd : String) (N : Pos → Prop) : NavState → NavState → Prop
  | root {s} : s.positions = [] → Update root cmd N s (push s ⟨root, 0⟩ "None")
  | undo {s p ps c cs} : cmd = "MoveLastLocation" → s.positions = p :: ps → s.commands = c :: cs →
      Update root cmd N s { s with positions := ps, commands := cs }
  | mode {s} (m : String) (o : Bool) : Update root cmd N s { s with mode := m, overview := o }
  | move {s p} : isMoveOrZoom cmd = true → N p → p.id ≠ illegal → Update root cmd N s (push s p cmd)
  | mark {s k p} : cmd.startsWith "SetPlacemarker" = true → markerIndex cmd = some k → N p →
      Update root cmd N s { s with markers := s.markers.set k p }
  | clean {s p ps c cs} (k : Nat) : s.positions = p :: ps → s.commands = c :: cs →
      Update root cmd N s { s with positions := p :: ps.drop k, commands := c :: cs.drop k }

section preserves
variable {root cmd : String} {N : Pos → Prop} {P : NavState → Prop} (hP : ∀ a b, Update root cmd N a b → P a → P b)
include hP

theorem applyRules_preserves {ids : String → Bool} {i : Nat} {t : Try} {s s' : NavState} {d : Bool}
    (hN : ∀ p, t.node = some p → N p) (h : applyRules root ids cmd i t s = .ok (s', d)) (hs : P s) : P s' := by
  unfold applyRules at h
  split at h
  · cases h
  · split at h
    · cases h
    · obtain ⟨s2, h2, h⟩ := bind_eq_ok h
      obtain ⟨s3, h3, h⟩ := bind_eq_ok h
      have hs1 := hP _ _ (.mode t.mode t.overview) hs
      have hs2 : P s2 := by
        rcases pushStep_ok h2 with rfl | ⟨hm, p, hp, hi, rfl⟩
        · exact hs1
        · exact hP _ _ (.move hm (hN p hp) hi) hs1
      have hs3 : P s3 := by
        rcases markerStep_ok h3 with rfl | ⟨hm, k, p, hk, hp, rfl⟩
        · exact hs2
        · exact hP _ _ (.mark hm hk (hN p hp)) hs2
      rcases finishStep_ok h with rfl | h4
      · exact hs3
      · rcases popStack_ok h4 with rfl | ⟨p, ps, c, cs, k, ep, ec, rfl⟩
        · exact hs3
        · exact hP _ _ (.clean k ep ec) hs3

theorem tryLoop_preserves {ids : String → Bool} : ∀ {fuel i : Nat} {tries : List Try} {s s' : NavState},
    (∀ t ∈ tries, ∀ p, t.node = some p → N p) → tryLoop root ids cmd fuel i tries s = .ok s' → P s → P s'
  | 0, _, _, _, _, _, h, _ => by simp [tryLoop] at h
  | _ + 1, _, [], _, _, _, h, _ => by simp [tryLoop] at h
  | f + 1, i, t :: ts, s, s', hN, h, hs => by
    unfold tryLoop at h
    have ht := hN t (List.mem_cons_self ..)
    split at h
    · rename_i ha
      cases h
      exact applyRules_preserves hP ht ha hs
    · rename_i ha
      exact tryLoop_preserves (fun t' ht' => hN t' (List.mem_cons_of_mem _ ht')) h (applyRules_preserves hP ht ha hs)
    · cases h
    · cases h

/-- **the induction principle of commands**: what every elementary update keeps, every command keeps, whatever the rules
answer on any of its tries -/
theorem doCommand_preserves {ids : String → Bool} {tries : List Try} {s s' : NavState}
    (hN : ∀ t ∈ tries, ∀ p, t.node = some p → N p) (h : doCommand root ids cmd tries s = .ok s') (hs : P s) : P s' := by
  unfold doCommand at h
  split at h
  · cases h
  · obtain ⟨s2, h2, h⟩ := bind_eq_ok h
    have h1 : P (ensureRoot root s) := by
      unfold ensureRoot
      split
      · rename_i he; exact hP _ _ (.root (by simpa using he)) hs
      · exact hs
    refine tryLoop_preserves hP hN h ?_
    unfold undoStep at h2
    split at h2
    · rename_i hu
      obtain ⟨⟨r, s1⟩, hp, he⟩ := bind_eq_ok h2
      cases he
      rcases pop_ok hp with ⟨p, ps, c, cs, ep, ec, -, rfl⟩ | ⟨-, rfl⟩
      · exact hP _ _ (.undo hu ep ec) h1
      · exact h1
    · cases h2; exact h1

end preserves

theorem inv_fresh (ids : String → Bool) {s : NavState} (hp : s.positions = []) (hc : s.commands = [])
    (hm : s.markers = List.replicate 10 Pos.dflt) : Inv ids s := by
  refine ⟨by simp [hp, hc], by simp [hp], ?_, by simp [hm]⟩
  intro m h
  rw [hm] at h
  rw [(List.mem_replicate.1 h).2]
  exact .inr rfl

theorem inv_init (ids : String → Bool) : Inv ids init := inv_fresh ids rfl rfl rfl

/-- **a new expression forgets everything tied to the old one** -/
theorem inv_newMathml (ids' : String → Bool) (s : NavState) : Inv ids' (resetForNewMathml s) := inv_fresh ids' rfl rfl rfl

theorem newMathml_position (rootId : String) (s : NavState) : current rootId (resetForNewMathml s) = ⟨rootId, 0⟩ := rfl

theorem inv_push (ids : String → Bool) (s : NavState) (p : Pos) (c : String) (h : Inv ids s) (hp : ids p.id = true) :
    Inv ids (push s p c) := by
  obtain ⟨h1, h2, h3, h4⟩ := h
  refine ⟨by simp [push, h1], ?_, h3, h4⟩
  intro q hq
  rcases List.mem_cons.1 hq with rfl | hq
  · exact hp
  · exact h2 q hq

theorem inv_shrink (ids : String → Bool) {s : NavState} (h : Inv ids s) (ps : List Pos) (cs : List String)
    (hl : ps.length = cs.length) (hsub : ∀ q ∈ ps, q ∈ s.positions) : Inv ids { s with positions := ps, commands := cs } :=
  ⟨hl, fun q hq => h.2.1 q (hsub q hq), h.2.2⟩

theorem inv_mode (ids : String → Bool) (s : NavState) (m : String) (o : Bool) (h : Inv ids s) :
    Inv ids { s with mode := m, overview := o } := h

theorem pop_no_panic (ids : String → Bool) (s : NavState) (h : Inv ids s) : ∀ x, pop s ≠ .panic x := by
  intro x
  unfold pop
  rw [if_neg (by simp [h.1])]
  split <;> simp

theorem Update.inv {ids : String → Bool} {root cmd : String} {N : Pos → Prop} {a b : NavState} (hr : ids root = true)
    (hN : ∀ p, N p → ids p.id = true ∨ p.id = illegal) (u : Update root cmd N a b) (h : Inv ids a) : Inv ids b := by
  cases u with
  | root => exact inv_push ids a _ _ h hr
  | undo _ ep ec => exact inv_shrink ids h _ _ (by simpa [ep, ec] using h.1) fun q hq => by simp [ep, hq]
  | mode m o => exact inv_mode ids a m o h
  | move _ hn hi => exact inv_push ids a _ _ h ((hN _ hn).resolve_right hi)
  | mark _ _ hn =>
    obtain ⟨h1, h2, h3, h4⟩ := h
    refine ⟨h1, h2, fun m hm => ?_, by simp [h4]⟩
    rcases List.mem_or_eq_of_mem_set hm with hm | rfl
    · exact h3 m hm
    · exact hN _ hn
  | clean k ep ec =>
    refine inv_shrink ids h _ _ (by have := h.1; simp [ep, ec] at this ⊢; omega) fun q hq => ?_
    rw [ep]
    rcases List.mem_cons.1 hq with rfl | hq
    · exact List.mem_cons_self ..
    · exact List.mem_cons_of_mem _ (List.mem_of_mem_drop hq)

/-- **every navigation command keeps the invariant** -/
theorem inv_doCommand (ids : String → Bool) (rootId cmd : String) (tries : List Try) (s s' : NavState)
    (h : Inv ids s) (hr : ids rootId = true) (ht : ∀ t ∈ tries, TryOk ids t)
    (hd : doCommand rootId ids cmd tries s = .ok s') : Inv ids s' :=
  doCommand_preserves (N := fun p => ids p.id = true ∨ p.id = illegal) (fun _ _ => Update.inv hr fun _ => id) ht hd h

theorem inv_setNode (ids : String → Bool) (s s' : NavState) (id : String) (off : Nat) (leaf : Bool)
    (h : Inv ids s) (hs : setNode s id off (ids id) leaf = .ok s') : Inv ids s' := by
  obtain ⟨hf, rfl⟩ := setNode_ok hs
  exact inv_push ids (reset s) _ _ (inv_shrink ids h [] [] rfl nofun) hf

theorem current_in_tree (ids : String → Bool) (rootId : String) (s : NavState) (h : Inv ids s) (hr : ids rootId = true) :
    ids (current rootId s).id = true := by
  unfold current
  split
  · exact hr
  · rename_i p ps hp
    exact h.2.1 p (by simp [hp])

/-- states reachable by any sequence of `set_mathml`, `set_navigation_node` and navigation commands whose rule answers satisfy
`TryOk`; `ids`/`root` are the id set and root id of the expression that is current -/
inductive Reach : (String → Bool) → String → NavState → Prop
  | start (ids : String → Bool) (root : String) (hr : ids root = true) : Reach ids root (resetForNewMathml init)
  | newMathml {ids root s} (ids' : String → Bool) (root' : String) (hr : ids' root' = true) :
      Reach ids root s → Reach ids' root' (resetForNewMathml s)
  | setNode {ids root s} (id : String) (off : Nat) (leaf : Bool) (s' : NavState) :
      Reach ids root s → setNode s id off (ids id) leaf = .ok s' → Reach ids root s'
  | command {ids root s} (cmd : String) (tries : List Try) (s' : NavState) :
      Reach ids root s → (∀ t ∈ tries, TryOk ids t) → doCommand root ids cmd tries s = .ok s' → Reach ids root s'

theorem reach_inv {ids : String → Bool} {root : String} {s : NavState} (h : Reach ids root s) :
    Inv ids s ∧ ids root = true := by
  induction h with
  | start ids root hr => exact ⟨inv_newMathml ids init, hr⟩
  | newMathml ids' root' hr _ _ => exact ⟨inv_newMathml ids' _, hr⟩
  | setNode id off leaf s' _ hs ih => exact ⟨inv_setNode _ _ s' id off leaf ih.1 hs, ih.2⟩
  | command cmd tries s' _ ht hd ih => exact ⟨inv_doCommand _ _ cmd tries _ s' ih.1 ih.2 ht hd, ih.2⟩

/-- **C11, first clause**: after ANY sequence of operations the current navigation position is a node of the currently
set expression (so `get_navigation_mathml` finds it). -/
theorem position_always_in_current_expression {ids : String → Bool} {root : String} {s : NavState}
    (h : Reach ids root s) : ids (current root s).id = true :=
  current_in_tree ids root s (reach_inv h).1 (reach_inv h).2

theorem Update.current_eq {root cmd : String} {N : Pos → Prop} {a b : NavState} (hm : isMoveOrZoom cmd = false)
    (hu : cmd ≠ "MoveLastLocation") (u : Update root cmd N a b) : current root b = current root a := by
  cases u with
  | root he => simp [current, push, he]
  | undo hc => exact absurd hc hu
  | mode => rfl
  | move hc => rw [hm] at hc; cases hc
  | mark => rfl
  | clean k ep => simp [current, ep]

/-- **C11, the clause on commands that only read**: a command that is not a Move*/Zoom* command (Read*, Describe*, WhereAmI*,
SetPlacemarker*, Toggle*, …) leaves the current position where it was, for any rule answers and any number of retries -/
theorem read_describe_where_dont_move (rootId : String) (ids : String → Bool) (cmd : String) (tries : List Try)
    (s s' : NavState) (hm : isMoveOrZoom cmd = false) (hu : cmd ≠ "MoveLastLocation")
    (hd : doCommand rootId ids cmd tries s = .ok s') : current rootId s' = current rootId s :=
  doCommand_preserves (N := fun _ => True) (P := fun x => current rootId x = current rootId s)
    (fun _ _ u h => (u.current_eq hm hu).trans h) (fun _ _ _ _ => trivial) hd rfl

end MC.Props.C11
