import MC.Props.C11
/-!
# C11, the undo clause — undoing the last move returns to the node that was current before that move

The part of the clause that is stack discipline: a Move*/Zoom* command that needed up to two retries leaves exactly ONE new entry
on the position and command stacks, the node it finally rests on; `MoveLastLocation` starts by popping that entry, so the rules are
then asked to speak from the node that was current before the move. What the rules answer is an environment parameter of the model.

A try that lands on a node without speech pushes it and raises the loop count; the try that speaks pushes its node and `pop_stack`
removes as many entries below it as the loop has counted.
-/
namespace MC.Props.C11
open MC.Nav

/-- a try that lands on the legal node `p`, whose speech is empty: the command is tried again -/
def silentTry (p : Pos) (t : Try) : Prop :=
  t.ruleErr = false ∧ t.node = some p ∧ t.inTree = true ∧ t.speak = true ∧ t.speakErr = false ∧ t.speechEmpty = true

/-- a try that lands on the legal node `p`, is asked to speak it and has speech for it (a try that is not asked to speak
ends the command the same way, through the other branch of `finishStep`; the statements below do not cover it) -/
def finalTry (p : Pos) (t : Try) : Prop :=
  t.ruleErr = false ∧ t.node = some p ∧ (t.inTree && t.speak) = true ∧ t.speakErr = false ∧ t.speechEmpty = false

def legal (p : Pos) : Prop := p ≠ Pos.dflt ∧ p.id ≠ illegal

def upd (s : NavState) (t : Try) : NavState := { s with mode := t.mode, overview := t.overview }

/-- what a command that moves has to satisfy (facts about the command string, true of every Move*/Zoom* command of the library) -/
structure MoveCmd (cmd : String) : Prop where
  move : isMoveOrZoom cmd = true
  notMarker : cmd.startsWith "SetPlacemarker" = false

theorem MoveCmd.notUndo {cmd : String} (h : MoveCmd cmd) : cmd ≠ "MoveLastLocation" := by
  have := h.move
  unfold isMoveOrZoom at this
  simp only [Bool.and_eq_true, decide_eq_true_eq] at this
  exact this.2

theorem popLoop_moves : ∀ (n : Nat) (s : NavState), s.positions.length = s.commands.length →
    (∀ c ∈ s.commands.take n, isMoveOrZoom c = true) →
    popLoop n s = .ok { s with positions := s.positions.drop n, commands := s.commands.drop n }
  | 0, _, _, _ => rfl
  | n + 1, ⟨[], [], _, _, _⟩, _, _ => rfl
  | n + 1, ⟨[], _ :: _, _, _, _⟩, hl, _ => by simp at hl
  | n + 1, ⟨_ :: _, [], _, _, _⟩, hl, _ => by simp at hl
  | n + 1, ⟨p :: ps, c :: cs, m, mo, ov⟩, hl, hm => by
    -- the top command `c` is a move: the entry is popped (the assert of `pop` passes, the lengths agree) and the loop goes on below it
    have hc : isMoveOrZoom c = true := hm c (by simp)
    have hl' : ps.length = cs.length := by simpa using hl
    have hpop : pop ⟨p :: ps, c :: cs, m, mo, ov⟩ = .ok (some (p, c), ⟨ps, cs, m, mo, ov⟩) := by simp [pop, hl']
    simp only [popLoop, top, hc, if_true, hpop]
    exact popLoop_moves n ⟨ps, cs, m, mo, ov⟩ hl' fun x hx => hm x (by simp [hx])

/-- the `n` entries under the pushed one are those of the tries that had to be repeated -/
theorem popStack_push (n : Nat) (s : NavState) (p : Pos) (c : String) (hlen : s.positions.length = s.commands.length)
    (hmv : ∀ x ∈ s.commands.take n, isMoveOrZoom x = true) :
    popStack (push s p c) n = .ok (push { s with positions := s.positions.drop n, commands := s.commands.drop n } p c) := by
  cases n with
  | zero => rfl
  | succ n =>
    -- the pushed entry is taken off (the lengths agree), the loop removes the `n + 1` entries below it, and it goes back on
    have hpop : pop (push s p c) = .ok (some (p, c), s) := by simp [pop, push, hlen]
    simp only [popStack, Nat.add_one_ne_zero, if_false, hpop, popLoop_moves (n + 1) s hlen hmv]

section
variable {rootId : String} {ids : String → Bool} {cmd : String} {f i : Nat} {t : Try} {ts : List Try} {p a : Pos} {ca : String} {s : NavState}

theorem finish_silent (h : silentTry p t) : finishStep i t s = .ok (s, false) := by
  -- in the tree, asked to speak, no error, empty speech: the branch of `finishStep` that tries again
  obtain ⟨_, _, h3, h4, h5, h6⟩ := h
  simp only [finishStep, h3, h4, h5, h6, Bool.and_self, if_true, Bool.false_eq_true, if_false]

theorem finish_final (h : finalTry p t) : finishStep i t s = (popStack s i).bind fun s4 => .ok (s4, true) := by
  -- asked to speak a node of the tree, no error, speech not empty: the branch of `finishStep` that cleans the stack
  obtain ⟨_, _, h3, h4, h5⟩ := h
  simp only [finishStep, h3, h4, h5, if_true, Bool.false_eq_true, if_false]

/-- `apply_navigation_rules` past its two early returns: the start node is in the tree and the rules did not fail -/
theorem applyRules_eq (hstart : ids (startIdOf rootId s) = true) (hr : t.ruleErr = false) :
    applyRules rootId ids cmd i t s =
      (pushStep cmd t (upd s t)).bind fun s2 => (markerStep cmd t s2).bind fun s3 => finishStep i t s3 := by
  simp only [applyRules, hstart, hr, Bool.not_true, Bool.false_eq_true, if_false, upd]

theorem applyRules_push (hc : MoveCmd cmd) (hs : top s = some (a, ca)) (ha : ids a.id = true) (hr : t.ruleErr = false)
    (ht : t.node = some p) (hl : legal p) (hne : p.id ≠ a.id) :
    applyRules rootId ids cmd i t s = finishStep i t (push (upd s t) p cmd) := by
  -- `upd` leaves the stacks alone, so the top is still `a`; `p` is a legal node other than `a`: it is pushed
  have htop : top (upd s t) = some (a, ca) := hs
  have hp : pushStep cmd t (upd s t) = .ok (push (upd s t) p cmd) := by
    simp only [pushStep, hc.move, if_true, ht, Option.getD_some, ne_eq, hl.1, not_false_eq_true, htop, hne, decide_true, hl.2,
      Bool.and_self]
  have hstart : ids (startIdOf rootId s) = true := by simp only [startIdOf, hs, ha]
  -- a move is no `SetPlacemarker`: `markerStep` passes the state on
  simp only [applyRules_eq hstart hr, hp, Outcome.bind, markerStep, hc.notMarker, Bool.false_eq_true, if_false]

theorem tryLoop_silent (hc : MoveCmd cmd) (hs : top s = some (a, ca)) (ha : ids a.id = true) (ht : silentTry p t) (hl : legal p)
    (hne : p.id ≠ a.id) :
    tryLoop rootId ids cmd (f + 1) i (t :: ts) s = tryLoop rootId ids cmd f (i + 1) ts (push (upd s t) p cmd) := by
  simp only [tryLoop, applyRules_push hc hs ha ht.1 ht.2.1 hl hne, finish_silent ht]

theorem tryLoop_final (hc : MoveCmd cmd) (hs : top s = some (a, ca)) (ha : ids a.id = true) (ht : finalTry p t) (hl : legal p)
    (hne : p.id ≠ a.id) : tryLoop rootId ids cmd (f + 1) i (t :: ts) s = popStack (push (upd s t) p cmd) i := by
  simp only [tryLoop, applyRules_push hc hs ha ht.1 ht.2.1 hl hne, finish_final ht]
  -- `x.bind fun a => .ok (a, true)` matched back into `.ok a` / `.err` / `.panic` is `x`
  cases popStack (push (upd s t) p cmd) i <;> rfl

theorem doCommand_move (hc : MoveCmd cmd) (hs : top s = some (a, ca)) (hmk : markerIdxOk cmd s = true) :
    doCommand rootId ids cmd ts s = tryLoop rootId ids cmd 3 0 ts s := by
  obtain ⟨ps, _, hp, _⟩ := top_eq_some hs
  -- the stack is not empty, so no root is pushed; the marker index is fine; a move is not `MoveLastLocation`, so nothing is popped
  have her : ensureRoot rootId s = s := by simp [ensureRoot, hp]
  simp only [doCommand, her, hmk, Bool.not_true, Bool.false_eq_true, if_false, undoStep, hc.notUndo, Outcome.bind]

end

/-- **a move that speaks at once** pushes the node it rests on -/
theorem move_no_retry (rootId : String) (ids : String → Bool) (cmd : String) (hc : MoveCmd cmd) (t0 : Try) (p0 q : Pos) (c : String)
    (ps : List Pos) (cs : List String) (s : NavState) (hs : s.positions = q :: ps) (hcs : s.commands = c :: cs) (hq : ids q.id = true)
    (hmk : markerIdxOk cmd s = true) (h0 : finalTry p0 t0) (hl0 : legal p0) (hne0 : p0.id ≠ q.id) (rest : List Try) :
    doCommand rootId ids cmd (t0 :: rest) s = .ok (push (upd s t0) p0 cmd) := by
  have htop : top s = some (q, c) := by simp [top, hs, hcs]
  rw [doCommand_move hc htop hmk, tryLoop_final hc htop hq h0 hl0 hne0]
  rfl

/-- **a move that needed one retry** (it first landed on `p0`, which has no speech, and then on `p1`) leaves ONE new entry, `p1`:
the intermediate `p0` is gone from the stacks -/
theorem move_one_retry (rootId : String) (ids : String → Bool) (cmd : String) (hc : MoveCmd cmd) (t0 t1 : Try) (p0 p1 q : Pos) (c : String)
    (ps : List Pos) (cs : List String) (s : NavState) (hs : s.positions = q :: ps) (hcs : s.commands = c :: cs) (hlen : ps.length = cs.length)
    (hq : ids q.id = true) (hp0 : ids p0.id = true) (hmk : markerIdxOk cmd s = true)
    (h0 : silentTry p0 t0) (hl0 : legal p0) (hne0 : p0.id ≠ q.id) (h1 : finalTry p1 t1) (hl1 : legal p1) (hne1 : p1.id ≠ p0.id) (rest : List Try) :
    ∃ s', doCommand rootId ids cmd (t0 :: t1 :: rest) s = .ok s' ∧ s'.positions = p1 :: q :: ps ∧ s'.commands = cmd :: c :: cs := by
  have htop : top s = some (q, c) := by simp [top, hs, hcs]
  rw [doCommand_move hc htop hmk, tryLoop_silent hc htop hq h0 hl0 hne0, tryLoop_final hc (by rfl) hp0 h1 hl1 hne1,
    popStack_push 1 _ p1 cmd (by simp [push, upd, hs, hcs, hlen]) (by simp [push, upd, hc.move])]
  exact ⟨_, rfl, by simp [push, upd, hs], by simp [push, upd, hcs]⟩

/-- **a move that needed two retries** leaves ONE new entry as well -/
theorem move_two_retries (rootId : String) (ids : String → Bool) (cmd : String) (hc : MoveCmd cmd) (t0 t1 t2 : Try) (p0 p1 p2 q : Pos) (c : String)
    (ps : List Pos) (cs : List String) (s : NavState) (hs : s.positions = q :: ps) (hcs : s.commands = c :: cs) (hlen : ps.length = cs.length)
    (hq : ids q.id = true) (hp0 : ids p0.id = true) (hp1 : ids p1.id = true) (hmk : markerIdxOk cmd s = true)
    (h0 : silentTry p0 t0) (hl0 : legal p0) (hne0 : p0.id ≠ q.id) (h1 : silentTry p1 t1) (hl1 : legal p1) (hne1 : p1.id ≠ p0.id)
    (h2 : finalTry p2 t2) (hl2 : legal p2) (hne2 : p2.id ≠ p1.id) (rest : List Try) :
    ∃ s', doCommand rootId ids cmd (t0 :: t1 :: t2 :: rest) s = .ok s' ∧ s'.positions = p2 :: q :: ps ∧ s'.commands = cmd :: c :: cs := by
  have htop : top s = some (q, c) := by simp [top, hs, hcs]
  rw [doCommand_move hc htop hmk, tryLoop_silent hc htop hq h0 hl0 hne0, tryLoop_silent hc (by rfl) hp0 h1 hl1 hne1,
    tryLoop_final hc (by rfl) hp1 h2 hl2 hne2,
    popStack_push 2 _ p2 cmd (by simp [push, upd, hs, hcs, hlen]) (by simp [push, upd, hc.move])]
  exact ⟨_, rfl, by simp [push, upd, hs], by simp [push, upd, hcs]⟩

/-- **undoing the last move**: `MoveLastLocation` starts from the stacks as they were before the move (the entry the move left
is popped before the rules are asked), so the rules speak from the node that was current before it -/
theorem undo_starts_before_move (s' : NavState) (p : Pos) (q : Pos) (ps : List Pos) (cmd c : String) (cs : List String)
    (hp : s'.positions = p :: q :: ps) (hc : s'.commands = cmd :: c :: cs) (hlen : ps.length = cs.length) :
    ∃ s2, undoStep "MoveLastLocation" s' = .ok s2 ∧ s2.positions = q :: ps ∧ s2.commands = c :: cs ∧
      startIdOf "" s2 = q.id := by
  refine ⟨{ s' with positions := q :: ps, commands := c :: cs }, ?_, rfl, rfl, ?_⟩
  · simp [undoStep, pop, hp, hc, hlen, Outcome.bind]
  · simp [startIdOf, top]

end MC.Props.C11
