import MC.Props.CleanShape
/-!
# C09 for the clean-up skeleton: author ids are neither invented, duplicated nor reordered

The skeleton `MC.Clean` has `add_attrs` transcribed for the lifts.  An id goes only together with its element (an `mphantom`,
a blank token, a row replaced by its single child: the child's id wins, `add_attrs` sets the child's attributes last); distinct
ids stay distinct (`clean_ids_nodup`), so `add_ids` (`MC.Props.C09`) meets no repeated author id afterwards.
-/
namespace MC.Props.C09Clean
open MC.Xml MC.Clean

abbrev Str := List Nat

mutual
/-- author ids in document order -/
def ids : Node → List Str
  | .text _ => []
  | .elem _ attrs kids => (idOf attrs).toList ++ idsL kids
def idsL : List Node → List Str
  | [] => []
  | k :: ks => ids k ++ idsL ks
end

theorem idsL_sublist {a b : List Node} (h : a.Sublist b) : (idsL a).Sublist (idsL b) := by
  induction h with
  | slnil => exact List.Sublist.refl _
  | cons x _ ih => simp only [idsL]; exact List.Sublist.trans ih (List.sublist_append_right _ _)
  | cons_cons x _ ih => simp only [idsL]; exact List.Sublist.append (List.Sublist.refl _) ih

theorem idOf_append (a b : List (Str × Str)) : idOf (a ++ b) = (idOf a).or (idOf b) := by
  unfold idOf
  rw [List.find?_append]
  cases a.find? (fun x => x.1 = s "id") <;> rfl

theorem idOf_append_noid (a e : List (Str × Str)) (he : idOf e = none) : idOf (a ++ e) = idOf a := by
  rw [idOf_append, he, Option.or_none]

/-- the attribute that marks an element the clean-up made is no id -/
theorem idOf_added : idOf [(s "data-changed", s "added")] = none := by decide +kernel

theorem idOf_filter (l : List (Str × Str)) (p : (Str × Str) → Bool) (hp : ∀ x, x.1 = s "id" → p x = true) : idOf (l.filter p) = idOf l := by
  unfold idOf
  induction l with
  | nil => rfl
  | cons x xs ih =>
    by_cases hx : x.1 = s "id"
    · simp [hp x hx, hx]
    · by_cases hpx : p x = true <;> simpa [List.filter_cons, hpx, hx] using ih

/-- `add_attrs`: the child's id wins; without one the row's id stays -/
theorem idOf_addAttrs (attrs a : List (Str × Str)) : idOf (addAttrs attrs a) = (match idOf a with | some c => some c | none => idOf attrs) := by
  rw [addAttrs, idOf_append]
  cases h : idOf a with
  | some c => rfl
  | none =>
    have hany : (a.any fun y => y.1 = s "id") = false := by simpa [idOf] using h
    rw [Option.none_or]
    exact idOf_filter _ _ fun x hx => by rw [hx, show keepsAttr (s "id") = true by decide +kernel, hany]; rfl

theorem ids_lift (attrs : List (Str × Str)) (k : Node) : (ids (lift attrs k)).Sublist ((idOf attrs).toList ++ ids k) := by
  cases k with
  | text t => simp [lift, ids]
  | elem n a kids =>
    simp only [lift, ids, idOf_addAttrs]
    cases h : idOf a with
    | some c => simp only [Option.toList]; exact List.sublist_append_right _ _
    | none => simp only [Option.toList, List.nil_append]; exact List.Sublist.refl _

theorem ids_makeEmpty (attrs : List (Str × Str)) : ids (makeEmpty attrs) = (idOf attrs).toList := by
  simp only [makeEmpty, ids, idsL, List.append_nil]
  rw [idOf_append_noid _ _ (by decide +kernel)]

theorem ids_createEmpty : ids createEmpty = [] := by decide +kernel

theorem ids_leaf (n : Str) (attrs : List (Str × Str)) (t : Str) : ids (leaf n attrs t) = (idOf attrs).toList := by
  simp [leaf, ids, idsL]

/-- what a node may keep: its own id, then ids from below -/
def Below (r : Node) (attrs : List (Str × Str)) (rest : List Str) : Prop := (ids r).Sublist ((idOf attrs).toList ++ rest)

theorem own_sub (attrs : List (Str × Str)) (rest : List Str) : ((idOf attrs).toList).Sublist ((idOf attrs).toList ++ rest) :=
  List.sublist_append_left _ _

theorem leafShape_ids {prc : Bool} {n : Str} {attrs : List (Str × Str)} {t : Str} {r : Node} (h : LeafShape prc n attrs t (some r))
    (rest : List Str) : (ids r).Sublist ((idOf attrs).toList ++ rest) := by
  cases h with
  | placeholder _ =>
    rw [ids_makeEmpty]
    exact own_sub _ _
  | signed _ _ _ =>
    rw [ids, idOf_append_noid _ _ idOf_added]
    simp only [idsL, ids_leaf, idOf, List.find?_nil, Option.map_none, Option.toList, List.append_nil]
    exact own_sub _ _
  | token _ _ _ =>
    rw [ids_leaf]
    exact own_sub _ _
  | space _ =>
    rw [ids_leaf]
    exact own_sub _ _
  | other _ _ =>
    have : idsL (if t.isEmpty then [] else [Node.text t]) = [] := by split <;> rfl   -- the text child of a leaf carries no id
    rw [ids, this, List.append_nil]
    exact own_sub _ _

theorem assureOne_ids (cs : List Node) : idsL (assureOne cs) = idsL cs := by
  unfold assureOne
  split
  · simp [idsL, ids_createEmpty]
  · rfl
  · simp only [idsL, ids, List.append_nil]
    rw [idOf_added]
    rfl

theorem built_ids {prc : Bool} {n : Str} {a : List (Str × Str)} {cs : List Node} {r : Node} (hb : Built prc n a cs (some r)) :
    (ids r).Sublist ((idOf a).toList ++ idsL cs) := by
  -- an element with the attributes `a` over some of the children
  have hn : ∀ m xs, (idsL xs).Sublist (idsL cs) → (ids (.elem m a xs)).Sublist ((idOf a).toList ++ idsL cs) := by
    intro m xs hx
    rw [ids]
    exact List.Sublist.append (List.Sublist.refl _) hx
  cases hb with
  | placeholder _ =>
    rw [ids_makeEmpty]
    exact own_sub _ _
  | noneEl _ => exact hn _ [] (List.nil_sublist _)
  | missing _ =>
    rw [ids_createEmpty]
    exact List.nil_sublist _
  | bare _ _ => exact hn _ [] (List.nil_sublist _)
  | first he _ =>
    subst he
    exact (List.sublist_append_left _ _).trans (List.sublist_append_right _ _)
  | lifted he =>
    subst he
    refine (ids_lift a _).trans (List.Sublist.append (List.Sublist.refl _) ?_)
    rw [idsL, idsL, List.append_nil]
    exact List.Sublist.refl _
  | row ht => exact hn _ _ (idsL_sublist ht.sublist)
  | wrapped ht _ => exact hn _ _ (by rw [assureOne_ids]; exact idsL_sublist ht.sublist)
  | script _ _ ht _ => exact hn _ _ (idsL_sublist ht.sublist)
  | same _ => exact hn _ cs (List.Sublist.refl _)

theorem ids_kept : Kept (fun t o => ∀ r, o = some r → (ids r).Sublist (ids t)) (fun ks cs => (idsL cs).Sublist (idsL ks)) where
  text _ _ e := by cases e; exact List.Sublist.refl _
  leaf _ ho r e := by rw [ids]; exact leafShape_ids (e ▸ ho) _
  hid _ _ := ⟨fun _ e => (nomatch e), fun _ e => by cases e; rw [ids, ids_makeEmpty]; exact own_sub _ _⟩
  built {_ _ attrs _ _ a _} _ _ ha hc hb r e := by
    have hid : idOf a = idOf attrs := by
      rcases ha with rfl | rfl
      · rfl
      · exact idOf_append_noid _ _ idOf_added
    rw [ids]
    exact (built_ids (e ▸ hb)).trans (hid ▸ List.Sublist.append (List.Sublist.refl _) hc)
  missing := by simp [idsL, ids_createEmpty]
  nil := List.Sublist.refl _
  drop _ h2 := h2.trans (List.sublist_append_right _ _)
  keep h1 h2 := (h1 _ rfl).append h2

/-- **C09 for the clean-up skeleton**: the author ids of what the clean-up returns are a sublist (same order, nothing invented,
nothing duplicated) of the author ids of its input -/
theorem clean_ids (prc : Bool) (pn : Str) : (t : Node) → (r : Node) → clean prc pn t = some r → (ids r).Sublist (ids t) :=
  ids_kept.holds prc pn
theorem cleanL_ids (prc : Bool) (pn : Str) : (ts : List Node) → (idsL (cleanL prc pn ts)).Sublist (idsL ts) :=
  ids_kept.holdsL prc pn

theorem clean_ids_nodup (prc : Bool) (pn : Str) (t r : Node) (h : clean prc pn t = some r) (hd : (ids t).Nodup) : (ids r).Nodup :=
  List.Nodup.sublist (clean_ids prc pn t r h) hd

theorem clean_ids_subset (prc : Bool) (pn : Str) (t r : Node) (h : clean prc pn t = some r) (i : Str) (hi : i ∈ ids r) : i ∈ ids t :=
  (clean_ids prc pn t r h).subset hi

example : (clean false (s "math") (.elem (s "mrow") [(s "id", s "r")] [.elem (s "mphantom") [(s "id", s "ph")] [.elem (s "mi") [] [.text (s "y")]],
    .elem (s "mi") [(s "id", s "x")] [.text (s "x")]])).map ids = some [s "x"] := by decide +kernel

end MC.Props.C09Clean
